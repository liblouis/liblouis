/-
  Lexer.lean — byte-level model of the table reader of liblouis
  (liblouis/compileTranslationTable.c; UCS-2 build, `widechar` = 16 bit, CHARSIZE = 2).

    getAChar            l.288-341   bytes → characters; encoding detection on the first two bytes
    _lou_getALine       l.343-358   characters → one line (CR dropped everywhere, LF ends, cap MAXSTRING-1)
    getToken            l.370-392   next run of characters > 32
    hexValue            l.1258-1277
    parseChars          l.1283-1408 escapes + UTF-8 decoding of a token
    _lou_extParseChars  l.1410-1422
    parseDots           l.1424-1523
    _lou_extParseDots   l.1525-1542
    compileRule (head)  l.2886-2888 blank line / comment test
    compileFile (loop)  l.4889      `while (_lou_getALine(&file)) compileRule(...)`

  Characters, bytes, cells, lengths are `Nat`; truncations are written where the C truncates.
  `x & 0xff`, `x & 0x3f`, `x & 0x0040`, `x << 6`, `ch & (0xFF - first0Bit[n])` are written with
  `%`, `/`, `*` (the same functions on non-negative integers; `omega` can then reason about them).

  QUIRKS of the code that the model reproduces (each is exercised by the differential test):
   Q1  encoding detection looks at the first TWO bytes only: FE FF → UTF-16BE, FF FE → UTF-16LE, both < 128 →
       "ASCII 8" (bytes are passed on one by one, UTF-8 is decoded later, per token, by parseChars);
       anything else (e.g. a file that starts with a UTF-8 multi-byte character or a UTF-8 BOM) is an error
       and the file reads as empty.
   Q2  a file of exactly ONE byte yields no character at all (the byte waits for a second one).
   Q3  UTF-16 with an odd number of bytes: the last byte is dropped silently.
   Q4  CR (13) is dropped wherever it occurs, not only before LF.
   Q5  a line holds at most MAXSTRING-1 = 2047 characters; when a further character (not LF) arrives, the line
       ends and THAT CHARACTER IS LOST; the remainder starts a new line.
   Q6  the last line needs no LF; an empty last line (EOF directly after LF) is not a line.
   Q7  every character ≤ 32 (including NUL) separates tokens.
   Q8  getToken's own length guard allows MAXSTRING characters and then writes the terminator at index
       MAXSTRING (one past the array); only the line cap (Q5) keeps tokens ≤ MAXSTRING-1 (`TokRes.overflow`).
   Q9  parseChars takes `chars[in] & 0xff` for the lead position (high byte of a UTF-16 character is ignored
       there) but the FULL character for the character after a backslash and for continuation bytes.
   Q10 `\x` needs 4 more characters in the token, otherwise it yields a literal 'x' (no error); a bad hex digit
       logs an error, yields 0xffff and parseChars still returns success.
   Q11 `\y` `\z` (and `\Y` `\Z`, which also warn) log "not compiled for 32-bit Unicode", yield the letter itself
       and parsing continues with success.
   Q12 a backslash at the end of the token reads the character behind the token (`term`: the NUL that
       getToken/_lou_extParseChars wrote; compilePassOpcode passes a string that is NOT terminated).
   Q13 invalid UTF-8 continuation: a warning, the character AFTER the lead byte (`chars[lastIn]`) is emitted —
       not the lead byte —, reading resumes behind it, the `for` loop goes on with the next k, and the partial
       code point is emitted at the end as well.
   Q14 a lead byte 0x80..0xBF is a one-byte sequence with value `ch & 0x7f`; 0xFE/0xFF start 7-byte sequences;
       the code point is accumulated in 32 bits (wraps); a result > 0xffff is an error.
   Q15 parseDots: '0' is accepted only as the complete cell; a dot character after '0' is "invalid"; dots a-f
       (either case) are bits 9-14 (dots 10-15); a repeated dot is an error; every cell gets bit 15 (LOU_DOTS).
   Q16 _lou_extParseChars/_lou_extParseDots copy a C string of `char` (signed): bytes ≥ 128 arrive as 0xFFxx;
       at most MAXSTRING-1 bytes are looked at.  _lou_extParseDots fails when `errorCount` is non-zero for ANY
       reason (stale count of an earlier failed operation) and resets it.
-/
import LouModel.Basic

namespace Lou.Lexer

def MAXSTRING : Nat := 2048
def QUOTESUB : Nat := 28
def ENDSEGMENT : Nat := 0xffff
def DOTSBIT : Nat := 0x8000

/-! ## getAChar -/

inductive Enc where
  | noEncoding | bigEndian | littleEndian | ascii8
  deriving DecidableEq, Repr

/-- the fields of `FileInfo` that getAChar uses (`status`, `encoding`, `checkencoding[2]`) plus a counter of the
    compileError calls it made -/
structure Hdr where
  enc : Enc := .noEncoding
  status : Nat := 0
  ce0 : Nat := 0
  ce1 : Nat := 0
  errs : Nat := 0
  deriving DecidableEq, Repr

/-- the `while ((ch1 = fgetc(file->in)) != EOF)` loop of getAChar (l.299-340).  `bs` are the bytes not yet read. -/
def getACharLoop : List Nat → Hdr → Option Nat × List Nat × Hdr
  | [], h => (none, [], h)
  | ch1 :: bs, h =>
    let h1 : Hdr := if h.status = 0 then { h with ce0 := ch1 } else if h.status = 1 then { h with ce1 := ch1 } else h
    let h2 : Hdr := { h1 with status := h.status + 1 }
    if h2.status = 2 then
      if h2.ce0 = 0xfe ∧ h2.ce1 = 0xff then getACharLoop bs { h2 with enc := .bigEndian }
      else if h2.ce0 = 0xff ∧ h2.ce1 = 0xfe then getACharLoop bs { h2 with enc := .littleEndian }
      else if h2.ce0 < 128 ∧ h2.ce1 < 128 then (some h2.ce0, bs, { h2 with enc := .ascii8 })
      else (none, bs, { h2 with errs := h2.errs + 1 })
    else
      match h2.enc with
      | .noEncoding => getACharLoop bs h2
      | .ascii8 => (some ch1, bs, h2)
      | .bigEndian =>
        match bs with
        | [] => (none, [], h2)
        | ch2 :: bs' => (some ((ch1 * 256 + ch2) % 65536), bs', h2)
      | .littleEndian =>
        match bs with
        | [] => (none, [], h2)
        | ch2 :: bs' => (some ((ch2 * 256 + ch1) % 65536), bs', h2)

/-- getAChar (l.288-341): `none` = EOF -/
def getAChar (bs : List Nat) (h : Hdr) : Option Nat × List Nat × Hdr :=
  if h.enc = .ascii8 ∧ h.status = 2 then (some h.ce1, bs, { h with status := 3 })
  else getACharLoop bs h

/-- number of characters already fetched from the stream but not yet returned (the second byte of an
    "ASCII 8" file waits in `checkencoding[1]`) -/
def pend (h : Hdr) : Nat := if h.enc = .ascii8 ∧ h.status = 2 then 1 else 0

/-- what lou_readCharFromFile delivers: getAChar until EOF (fuel = bytes + 2 always suffices,
    `C16.readChars_decode`) -/
def readCharsLoop : Nat → List Nat → Hdr → List Nat → List Nat × Hdr
  | 0, _, h, acc => (acc, h)
  | f + 1, bs, h, acc =>
    match getAChar bs h with
    | (none, _, h') => (acc, h')
    | (some c, bs', h') => readCharsLoop f bs' h' (acc ++ [c])

def readChars (bs : List Nat) : List Nat × Hdr := readCharsLoop (bs.length + 2) bs {} []

/-! ### the character stream as a function of the bytes (specification level) -/

def pairsBE : List Nat → List Nat
  | a :: b :: r => (a * 256 + b) % 65536 :: pairsBE r
  | _ => []

def pairsLE : List Nat → List Nat
  | a :: b :: r => (b * 256 + a) % 65536 :: pairsLE r
  | _ => []

/-- characters of a whole file -/
def decode : List Nat → List Nat
  | b0 :: b1 :: r =>
    if b0 = 0xfe ∧ b1 = 0xff then pairsBE r
    else if b0 = 0xff ∧ b1 = 0xfe then pairsLE r
    else if b0 < 128 ∧ b1 < 128 then b0 :: b1 :: r
    else []
  | _ => []

/-- the file is rejected by the encoding test (Q1) -/
def badEncoding : List Nat → Bool
  | b0 :: b1 :: _ => !((b0 = 0xfe ∧ b1 = 0xff) ∨ (b0 = 0xff ∧ b1 = 0xfe) ∨ (b0 < 128 ∧ b1 < 128))
  | _ => false

/-- characters still to come from reader state `(bs, h)` -/
def remaining (bs : List Nat) (h : Hdr) : List Nat :=
  match h.enc with
  | .noEncoding => if h.status = 0 then decode bs else if h.status = 1 then decode (h.ce0 :: bs) else []
  | .ascii8 => if h.status = 2 then h.ce1 :: bs else bs
  | .bigEndian => pairsBE bs
  | .littleEndian => pairsLE bs

/-- reachable reader states: an encoding is only set when the second byte has been read -/
def Hdr.wf (h : Hdr) : Prop := h.enc = .noEncoding ∨ 2 ≤ h.status

/-! ## _lou_getALine -/

/-- the loop of _lou_getALine (l.348-352).  Result: (hit EOF, line, bytes left, header). -/
def getALineLoop : Nat → List Nat → Hdr → List Nat → Bool × List Nat × List Nat × Hdr
  | 0, bs, h, line => (true, line, bs, h)
  | f + 1, bs, h, line =>
    match getAChar bs h with
    | (none, bs', h') => (true, line, bs', h')
    | (some ch, bs', h') =>
      if ch = 13 then getALineLoop f bs' h' line
      else if ch = 10 ∨ MAXSTRING - 1 ≤ line.length then (false, line, bs', h')
      else getALineLoop f bs' h' (line ++ [ch])

/-- _lou_getALine: (return value, line, bytes left, header).  Fuel `bytes + 2` always suffices
    (`Lou.Lexer.getALine_spec`). -/
def getALine (bs : List Nat) (h : Hdr) : Bool × List Nat × List Nat × Hdr :=
  match getALineLoop (bs.length + 2) bs h [] with
  | (eof, line, bs', h') => (!(eof && line.isEmpty), line, bs', h')

/-- the loop of compileFile: all lines of a file, in order (line k is element k-1) -/
def fileLinesLoop : Nat → List Nat → Hdr → List (List Nat) → List (List Nat) × Hdr
  | 0, _, h, acc => (acc, h)
  | f + 1, bs, h, acc =>
    match getALine bs h with
    | (false, _, _, h') => (acc, h')
    | (true, line, bs', h') => fileLinesLoop f bs' h' (acc ++ [line])

def fileLines (bs : List Nat) : List (List Nat) × Hdr := fileLinesLoop (bs.length + 2) bs {} []

/-- specification level: the lines of a character stream.  `cur` = line under construction. -/
def splitLines : List Nat → List Nat → List (List Nat)
  | [], cur => if cur.isEmpty then [] else [cur]
  | c :: cs, cur =>
    if c = 13 then splitLines cs cur
    else if c = 10 ∨ MAXSTRING - 1 ≤ cur.length then cur :: splitLines cs []
    else splitLines cs (cur ++ [c])

/-! ## getToken, blank and comment lines -/

inductive TokRes where
  | none                                       -- no further token (return 0; an error iff a description was given)
  | tooLong                                    -- "more than 2048 characters" (return 0 + error)
  | overflow (t : List Nat)                    -- Q8: token of exactly MAXSTRING characters: terminator written out of bounds
  | tok (t : List Nat) (rest : List Nat)       -- return 1; `rest` = line from the new linepos on
  deriving DecidableEq, Repr

/-- getToken (l.370-392) on the part of the line from `linepos` on -/
def getToken (l : List Nat) : TokRes :=
  let l1 := l.dropWhile (· ≤ 32)
  let t := l1.takeWhile (32 < ·)
  let r := l1.dropWhile (32 < ·)
  if MAXSTRING < t.length then .tooLong
  else if t.isEmpty then .none
  else if t.length = MAXSTRING then .overflow t
  else .tok t (r.dropWhile (· ≤ 32))

/-- all tokens of a line (specification level) -/
def tokens : List Nat → List Nat → List (List Nat)
  | [], cur => if cur.isEmpty then [] else [cur]
  | c :: cs, cur =>
    if c ≤ 32 then (if cur.isEmpty then tokens cs [] else cur :: tokens cs [])
    else tokens cs (cur ++ [c])

/-- head of compileRule (l.2887-2888): a line without token, or whose first token starts with '#' or '<',
    is accepted and has no effect -/
def isInert (line : List Nat) : Bool :=
  match getToken line with
  | .none => true
  | .tok t _ => t.head? = some 35 || t.head? = some 60
  | .overflow t => t.head? = some 35 || t.head? = some 60
  | .tooLong => false

/-- the lines that reach the opcode switch, with their line numbers -/
def entries (ls : List (List Nat)) : List (List Nat) := ls.filter (fun l => !isInert l)

/-! ## hexValue, parseChars -/

def hexDigit? (c : Nat) : Option Nat :=
  if 48 ≤ c ∧ c ≤ 57 then some (c - 48)
  else if 97 ≤ c ∧ c ≤ 102 then some (c - 97 + 10)
  else if 65 ≤ c ∧ c ≤ 70 then some (c - 65 + 10)
  else none

/-- hexValue (l.1258-1277): `none` = "invalid n-digit hexadecimal number" (error, value 0xffff).
    `binaryValue |= hexDigit << (4 * (length - 1 - k))` is written in Horner form (the nibbles are disjoint). -/
def hexValue (digits : List Nat) : Option Nat :=
  (digits.foldlM (fun acc c => (hexDigit? c).map (fun d => acc * 16 + d)) 0).map (· % 65536)

/-- result of parseChars: return value, the characters written to `result->chars`, `result->length`,
    number of compileError / compileWarning calls -/
structure PC where
  ok : Bool
  chars : List Nat
  length : Nat
  errs : Nat
  warns : Nat
  deriving DecidableEq, Repr

inductive Esc where
  | val (ch : Nat) (skip : Nat) (e w : Nat)
  | invalid
  deriving DecidableEq, Repr

/-- the `switch (ch = token->chars[in])` after a backslash (l.1297-1363); `rest` = token from index `in` on,
    `term` = what is stored behind the token.  `skip` = how far `in` advances (including the final `in++`). -/
def escape (rest : List Nat) (term : Nat) : Esc :=
  let c := rest.headD term
  let hex (w : Nat) : Esc :=
    if 4 < rest.length then
      match hexValue ((rest.drop 1).take 4) with
      | some v => .val v 5 0 w
      | none => .val 0xffff 5 1 w
    else .val c 1 0 w
  if c = 92 then .val 92 1 0 0
  else if c = 101 then .val 0x1b 1 0 0       -- \e
  else if c = 102 then .val 12 1 0 0         -- \f
  else if c = 110 then .val 10 1 0 0         -- \n
  else if c = 114 then .val 13 1 0 0         -- \r
  else if c = 115 then .val 32 1 0 0         -- \s
  else if c = 116 then .val 9 1 0 0          -- \t
  else if c = 118 then .val 11 1 0 0         -- \v
  else if c = 119 then .val ENDSEGMENT 1 0 0 -- \w
  else if c = 34 then .val QUOTESUB 1 0 0    -- \"
  else if c = 88 then hex 1                  -- \X (deprecated: warning)
  else if c = 120 then hex 0                 -- \x
  else if c = 89 ∨ c = 90 then .val c 1 1 1  -- \Y \Z: warning + "not compiled for 32-bit Unicode"
  else if c = 121 ∨ c = 122 then .val c 1 1 0
  else .invalid

/-- number of continuation bytes announced by a lead byte (l.1376-1377) -/
def numBytes (ch : Nat) : Nat :=
  if 0xFE ≤ ch then 6 else if 0xFC ≤ ch then 5 else if 0xF8 ≤ ch then 4 else if 0xF0 ≤ ch then 3
  else if 0xE0 ≤ ch then 2 else if 0xC0 ≤ ch then 1 else 0

inductive Cont where
  | tooLong (out : List Nat) (w : Nat)
  | done (cur : List Nat) (curPos : Nat) (utf32 : Nat) (out : List Nat) (w : Nat)
  deriving DecidableEq, Repr

/-- the `for (k = 0; k < numBytes; k++)` loop (l.1379-1393).  `rest`/`restPos` = token from `lastIn` on. -/
def contLoop (rest : List Nat) (restPos : Nat) : Nat → List Nat → Nat → Nat → List Nat → Nat → Cont
  | 0, cur, curPos, u, out, w => .done cur curPos u out w
  | k + 1, cur, curPos, u, out, w =>
    match cur with
    | [] => .done cur curPos u out w
    | c :: cur' =>
      if MAXSTRING - 1 ≤ curPos then .done cur curPos u out w
      else if MAXSTRING - 1 ≤ out.length then .tooLong out w
      else if c < 128 ∨ (c / 64) % 2 = 1 then
        contLoop rest restPos k (rest.drop 1) (restPos + 1) u (out ++ [rest.headD 0]) (w + 1)
      else contLoop rest restPos k cur' (curPos + 1) ((u * 64 + c % 64) % 4294967296) out w

/-- the `while (in < token->length)` loop of parseChars -/
def parseCharsLoop (term : Nat) : Nat → List Nat → Nat → List Nat → Nat → Nat → Nat → PC
  | 0, _, _, out, lastOut, e, w => ⟨false, out, lastOut, e, w⟩
  | _ + 1, [], _, out, _, e, w => ⟨true, out, out.length, e, w⟩
  | f + 1, c0 :: rest, pos, out, lastOut, e, w =>
    let ch := c0 % 256
    if ch < 128 then
      if ch = 92 then
        match escape rest term with
        | .invalid => ⟨false, out, lastOut, e + 1, w⟩
        | .val v skip e' w' =>
          if MAXSTRING - 1 ≤ out.length then ⟨false, out, MAXSTRING - 1, e + e' + 1, w + w'⟩
          else parseCharsLoop term f (rest.drop skip) (pos + 1 + skip) (out ++ [v]) lastOut (e + e') (w + w')
      else if MAXSTRING - 1 ≤ out.length then ⟨false, out, MAXSTRING - 1, e + 1, w⟩
      else parseCharsLoop term f rest (pos + 1) (out ++ [ch]) lastOut e w
    else
      let lastOut' := out.length
      let n := numBytes ch
      match contLoop rest (pos + 1) n rest (pos + 1) (ch % 2 ^ (7 - n)) out w with
      | .tooLong out' w' => ⟨false, out', lastOut', e + 1, w'⟩
      | .done cur curPos u out' w' =>
        if MAXSTRING - 1 ≤ out'.length then ⟨false, out', lastOut', e + 1, w'⟩
        else if 0xffff < u then ⟨false, out', lastOut', e + 1, w'⟩
        else parseCharsLoop term f cur curPos (out' ++ [u]) lastOut' e w'

/-- parseChars (l.1283-1408) -/
def parseChars (tok : List Nat) (term : Nat := 0) : PC :=
  parseCharsLoop term (tok.length + 1) tok 0 [] 0 0 0

/-- the copy loops of _lou_extParseChars / _lou_extParseDots: C string of (signed) char → widechars -/
def extWiden (bs : List Nat) : List Nat :=
  ((bs.takeWhile (· ≠ 0)).take (MAXSTRING - 1)).map (fun b => if 128 ≤ b then 0xff00 + b % 256 else b)

/-- _lou_extParseChars: (return value, characters copied to the caller, errors, warnings) -/
def extParseChars (bs : List Nat) : Nat × List Nat × Nat × Nat :=
  let r := parseChars (extWiden bs) 0
  if r.ok then (r.length, r.chars.take r.length, r.errs, r.warns) else (0, [], r.errs, r.warns)

/-! ## parseDots -/

def dotBit? (c : Nat) : Option Nat :=
  if 49 ≤ c ∧ c ≤ 57 then some (2 ^ (c - 49))                 -- '1'..'9'
  else if 97 ≤ c ∧ c ≤ 102 then some (2 ^ (c - 97 + 9))       -- 'a'..'f'
  else if 65 ≤ c ∧ c ≤ 70 then some (2 ^ (c - 65 + 9))        -- 'A'..'F'
  else none

inductive DotsErr where
  | dup | missing | invalid (c : Nat)
  deriving DecidableEq, Repr

deriving instance DecidableEq for Except

/-- loop state of parseDots: finished cells, and the cell under construction
    (`none` = `index == start`, nothing read for this cell yet) -/
structure DState where
  cells : List Nat
  cur : Option Nat
  deriving DecidableEq, Repr

/-- one iteration of the `for` loop of parseDots (l.1432-1515) -/
def dotsStep (s : DState) (c : Nat) : Except DotsErr DState :=
  match dotBit? c with
  | some d =>
    match s.cur with
    | none => .ok { s with cur := some d }
    | some cell =>
      if cell = 0 then .error (.invalid c)
      else if cell &&& d ≠ 0 then .error .dup
      else .ok { s with cur := some (cell ||| d) }
  | none =>
    if c = 48 then
      match s.cur with
      | none => .ok { s with cur := some 0 }
      | some _ => .error (.invalid c)
    else if c = 45 then
      match s.cur with
      | none => .error .missing
      | some cell => .ok { cells := s.cells ++ [cell ||| DOTSBIT], cur := none }
    else .error (.invalid c)

def dotsFinish (s : DState) : Except DotsErr (List Nat) :=
  match s.cur with
  | none => .error .missing
  | some cell => .ok (s.cells ++ [cell ||| DOTSBIT])

/-- parseDots (l.1424-1523) -/
def parseDots (tok : List Nat) : Except DotsErr (List Nat) :=
  tok.foldlM dotsStep ⟨[], none⟩ >>= dotsFinish

/-- _lou_extParseDots with `errorCount = 0` on entry: (return value, cells, errors) -/
def extParseDots (bs : List Nat) : Nat × List Nat × Nat :=
  match parseDots (extWiden bs) with
  | .ok cells => (cells.length, cells, 0)
  | .error _ => (0, [], 1)

/-! ## line protocol -/

def showLines (ls : List (List Nat)) : String :=
  if ls.isEmpty then "." else ",".intercalate (ls.map showWide)

/-- `MCHARS bytes`      ↔ harness `READCHARS file`   (lou_readCharFromFile until EOF)
    `MLINES bytes`      ↔ harness `READLINES file`   (_lou_getALine until 0)
    `MPARSECHARS bytes` ↔ harness `PARSECHARS bytes` (_lou_extParseChars)
    `MPARSEDOTS bytes`  ↔ harness `PARSEDOTS bytes`  (_lou_extParseDots)
    `MTOKENS wide`      : the tokens of a line (no harness counterpart: getToken is static) -/
def handle? (toks : List String) : Option String :=
  match toks with
  | ["MCHARS", b] =>
    some <| match parseBytes b with
      | none => "BADOP"
      | some bs => let (cs, h) := readChars bs; s!"RC {showWide cs} e={h.errs} w=0"
  | ["MLINES", b] =>
    some <| match parseBytes b with
      | none => "BADOP"
      | some bs => let (ls, h) := fileLines bs; s!"LN {ls.length} {showLines ls} e={h.errs} w=0"
  | ["MPARSECHARS", b] =>
    some <| match parseBytes b with
      | none => "BADOP"
      | some bs => let (n, cs, e, w) := extParseChars bs; s!"PC {n} {showWide cs} e={e} w={w}"
  | ["MPARSEDOTS", b] =>
    some <| match parseBytes b with
      | none => "BADOP"
      | some bs => let (n, cs, e) := extParseDots bs; s!"PD {n} {showWide cs} e={e} w=0"
  | ["MTOKENS", w] =>
    some <| match parseWide w with
      | none => "BADOP"
      | some l => s!"TK {showLines (tokens l [])}"
  | "MCHARS" :: _ => some "BADOP"
  | "MLINES" :: _ => some "BADOP"
  | "MPARSECHARS" :: _ => some "BADOP"
  | "MPARSEDOTS" :: _ => some "BADOP"
  | "MTOKENS" :: _ => some "BADOP"
  | _ => none

end Lou.Lexer
