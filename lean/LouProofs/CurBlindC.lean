/-
  CurBlind.lean's statement for the forward main pass with context rules: it does not look at the cursor
  (what it emits, maps and consumes does not depend on `cpos`/`cstat`) nor at `mode` but for the three bits.  Hence the
  engine `callFwd` runs (`engineFor`) is cursor-blind, and C10's optional-argument theorems hold for every call the
  whole-call model covers.
-/
import LouProofs.CurBlind
import LouProofs.Lemmas.Engine

namespace Lou.CurBlindC
open Lou Lou.Gen Lou.Fwd Lou.FwdC Lou.CurBlind Lou.C09

variable {e : Out → Out} {m m' : Nat}

def erA (e : Out → Out) : ActC → ActC
  | .unsupported => .unsupported
  | .fail o vs => .fail (e o) vs
  | .ok o np vs => .ok (e o) np vs

theorem erA_cases {a b : ActC} (h : erA e a = erA e b) :
    (a = .unsupported ∧ b = .unsupported) ∨ (∃ x y vs, a = .fail x vs ∧ b = .fail y vs ∧ e x = e y) ∨
    ∃ x y np vs, a = .ok x np vs ∧ b = .ok y np vs ∧ e x = e y := by
  cases a <;> cases b <;> simp only [erA, reduceCtorEq, ActC.fail.injEq, ActC.ok.injEq] at h
  · exact .inl ⟨rfl, rfl⟩
  · obtain ⟨ho, rfl⟩ := h; exact .inr (.inl ⟨_, _, _, rfl, rfl, ho⟩)
  · obtain ⟨ho, rfl, rfl⟩ := h; exact .inr (.inr ⟨_, _, _, _, rfl, rfl, ho⟩)

def erSC (e : Out → Out) (sc : StC) : StC := { sc with st := erS e sc.st }

theorem erSC_id (sc : StC) : erSC id sc = sc := rfl

theorem erSC_eq {sc sc' : StC} (h : erSC e sc = erSC e sc') :
    sc' = { sc with st := { sc.st with out := sc'.st.out } } ∧ e sc.st.out = e sc'.st.out := by
  cases sc; cases sc'
  simp only [erSC, StC.mk.injEq] at h ⊢
  simp only [h.2, and_true]
  exact erS_eq h.1

/-- as `sim_mk`, one level up -/
theorem simC_of {x y : St × Bool} (h : StepSim (erS e) x y) (pi : Bool) (vs : List Nat) (un : Bool) :
    StepSim (erSC e) ({ st := x.1, posInc := pi, vars := vs, unsupported := un }, x.2)
      ({ st := y.1, posInc := pi, vars := vs, unsupported := un }, y.2) :=
  ⟨congrArg (fun z => ({ st := z, posInc := pi, vars := vs, unsupported := un } : StC)) h.1, h.2⟩

theorem selectRuleC_mode (hm : ModeAgree m m') (t : Table) (dc : Bool) (input : List Nat) (pos before prevOp : Nat) (posInc : Bool)
    (vars : List Nat) :
    selectRuleC t m dc input pos before prevOp posInc vars = selectRuleC t m' dc input pos before prevOp posInc vars :=
  selectRuleC_congr fun _ _ => opcodeAccepts_congr hm.noContractions ..

variable (he : Obs e) (hm : ModeAgree m m')
include he

theorem moveOut_er {o o' : Out} (dsm dsr : Nat) (h : e o = e o') : e (moveOut o dsm dsr) = e (moveOut o' dsm dsr) := by
  obtain ⟨hc, hm⟩ := he.body h
  unfold moveOut
  rw [hc, hm]
  exact he.put _ _ h

include hm

/-- Stated on the `match` by which `actionC` and the copy instruction of `actLoopC` consume a copy (cut short, or
    continued by `k`, anything that respects `e`), not on the pair `copyChars` returns: each user would then have to
    take that `match` apart for both runs.  It unifies with the model's two because pattern and arm order are theirs
    (Lean compares the auxiliary matchers by their λ-terms); hence also one copy per output type (CurBlindB). -/
theorem copyChars_er (t : Table) (input : List Nat) (max : Nat) (vars : List Nat) {k k' : Out → ActC}
    (hk : ∀ {x y : Out}, e x = e y → erA e (k x) = erA e (k' y)) :
    ∀ (n : Nat) (frm to : Int) {o o' : Out}, e o = e o' →
      erA e (match copyChars t m input max n frm to o with
        | (o2, false) => ActC.fail o2 vars
        | (o2, true) => k o2) =
      erA e (match copyChars t m' input max n frm to o' with
        | (o2, false) => ActC.fail o2 vars
        | (o2, true) => k' o2)
  | 0, _, _, _, _, h => hk h
  | n + 1, frm, to, o, o', h => by
    unfold copyChars
    by_cases hlt : frm < to
    · rw [if_pos hlt, if_pos hlt]
      rcases map_eq_cases (putc_er he hm h t (Pass.elem input frm) frm.toNat input max) with ⟨h1, h2⟩ | ⟨x, y, h1, h2, hxy⟩
      · rw [h1, h2]; exact congrArg (ActC.fail · vars) h
      · rw [h1, h2]; exact copyChars_er t input max vars hk n _ _ hxy
    · rw [if_neg hlt, if_neg hlt]; exact hk h

theorem actLoopC_er (t : Table) (p input : List Nat) (mt : Pass.Match) (max dsm : Nat) :
    ∀ (fuel ic : Nat) {o o' : Out} (dsr : Nat) (np : Int) (vars : List Nat), e o = e o' →
      erA e (actLoopC t m p input mt max dsm fuel ic o dsr np vars) = erA e (actLoopC t m' p input mt max dsm fuel ic o' dsr np vars)
  | 0, _, _, _, _, _, _, _ => rfl
  | f + 1, ic, o, o', dsr, np, vars, h => by
    obtain ⟨hc, hmp⟩ := he.body h
    have ih := @actLoopC_er t p input mt max dsm f
    have hfail : erA e (.fail o vars) = erA e (.fail o' vars) := congrArg (ActC.fail · vars) h
    have br := @ite_rel _ _ (erA e · = erA e ·)
    unfold actLoopC
    rw [hc, hmp]
    -- the instructions in the order of the definition: end of the program, literal, omit, copy, swap, variable
    refine br (fun _ => congrArg (ActC.ok · np vars) h) fun _ => ?_
    refine br (fun _ => ?_) fun _ => ?_
    · exact br (fun _ => hfail) fun _ => ih _ _ _ _ (he.put _ _ h)
    refine br (fun _ => ih _ _ _ _ h) fun _ => ?_
    refine br (fun _ => ?_) fun _ => ?_
    · -- the two tests of the copy sit in the discriminant of a `match`, out of reach of `ite_rel`
      dsimp only
      by_cases hcount : dsr - dsm > 0
      · rw [if_pos hcount, if_pos hcount]
        by_cases hcap : dsr + (dsr - dsm) > max
        · rw [if_pos hcap, if_pos hcap]; exact hfail
        · rw [if_neg hcap, if_neg hcap]
          exact copyChars_er he hm t input max vars (ih _ _ _ _) _ _ _ (moveOut_er he dsm dsr h)
      · rw [if_neg hcount, if_neg hcount]
        exact copyChars_er he hm t input max vars (ih _ _ _ _) _ _ _ h
    refine br (fun _ => ?_) fun _ => ?_
    · cases Pass.refRule t p ic with
      | none => rfl
      | some r =>
        exact br (fun _ => ih _ _ _ _ (he.put _ _ h)) fun _ => congrArg (ActC.fail · vars) (he.put _ _ h)
    cases Pass.varAction p ic vars with
    | none => rfl
    | some vl => exact ih _ _ _ _ h

theorem actionC_er (t : Table) (p input : List Nat) (mt : Pass.Match) (ic max : Nat) {o o' : Out} (vars : List Nat)
    (h : e o = e o') : erA e (actionC t m p input mt ic max o vars) = erA e (actionC t m' p input mt ic max o' vars) := by
  unfold actionC
  rw [(he.body h).1]
  refine copyChars_er he hm t input max vars (fun hxy => ?_) _ _ _ h
  rw [(he.body hxy).1]
  exact actLoopC_er he hm t p input mt max _ _ _ _ _ _ hxy

theorem stepC_er (t : Table) (input : List Nat) (max : Nat) {sc sc' : StC} (h : erSC e sc = erSC e sc') :
    StepSim (erSC e) (stepC t m input max sc) (stepC t m' input max sc') := by
  obtain ⟨hs, ho⟩ := erSC_eq h
  rw [hs, stepC_eq, stepC_eq]
  simp only [lastWord_congr_out t input sc.st (he.body ho).1, ← selectRuleC_mode hm]
  generalize selectRuleC t m sc.st.dontContract input sc.st.pos (beforeAttrs t input sc.st.pos) sc.st.prevOp sc.posInc sc.vars = s
  refine ite_rel (StepSim (erSC e)) (fun _ => simC_of (sim_mk ho ..) ..) fun _ => ?_
  refine ite_rel (StepSim (erSC e)) (fun _ => simC_of (sim_mk ho ..) ..) fun _ => ?_
  have hi := ins_er he ho t input sc.st.pos sc.st.prevOp (beforeAttrs t input sc.st.pos) max
  generalize insertNumberSign t input sc.st.pos sc.st.prevOp _ max sc.st.out = a at hi ⊢
  generalize insertNumberSign t input sc.st.pos sc.st.prevOp _ max sc'.st.out = b at hi ⊢
  rcases map_eq_cases hi with ⟨rfl, rfl⟩ | ⟨x, y, rfl, rfl, hxy⟩
  · exact simC_of (sim_mk ho ..) ..
  generalize foundC t s sc.posInc sc.vars input sc.st.pos = found
  cases found with
  | unsupported => exact simC_of (sim_mk hxy ..) ..
  | rule r mt ic =>
    dsimp only
    rcases erA_cases (actionC_er he hm t r.dots input mt ic max sc.vars hxy) with ⟨e1, e2⟩ | ⟨x', y', vs, e1, e2, hxy'⟩ | ⟨x', y', np, vs, e1, e2, hxy'⟩
    · rw [e1, e2]; exact simC_of (sim_mk hxy ..) ..
    · rw [e1, e2]; exact simC_of (sim_mk hxy' ..) ..
    · rw [e1, e2]; exact simC_of (sim_mk hxy' ..) ..
  | none => exact simC_of (remember_er t input s.sel _ (emit_er he hm t input max s.sel _ hxy)) ..

theorem loopC_er (t : Table) (input : List Nat) (max : Nat) (fuel : Nat) {sc sc' : StC} (h : erSC e sc = erSC e sc') :
    StepSim (erSC e) (loopC t m input max fuel sc) (loopC t m' input max fuel sc') := by
  rw [loopC_eq_iter, loopC_eq_iter]
  exact iter_stepSim (fun _ _ => stepC_er he hm t input max) fuel h

omit he hm

theorem translateC_mode (hm : ModeAgree m m') (t : Table) (input : List Nat) (max : Nat) (cpos cstat : Int) :
    translateC t m input max cpos cstat = translateC t m' input max cpos cstat := by
  obtain ⟨h1, h2⟩ := loopC_er obs_id hm t input max (2 * input.length + 2) (sc := { st := { out := { cpos := cpos, cstat := cstat } } }) rfl
  rw [erSC_id, erSC_id] at h1
  rw [translateC_eq, translateC_eq, Prod.ext h1 h2]

def erR : ResC → ResC
  | .done r => .done (erRes r)
  | x => x

/-- cells, position map, consumed length and applied rules of the main pass with context rules do not depend on the
    cursor -/
theorem translateC_cursor_blind (t : Table) (mode : Nat) (input : List Nat) (max : Nat) (c1 s1 c2 s2 : Int) :
    erR (translateC t mode input max c1 s1) = erR (translateC t mode input max c2 s2) := by
  have h := loopC_er obs_er (.refl mode) t input max (2 * input.length + 2)
    (sc := { st := { out := { cpos := c1, cstat := s1 } } }) (sc' := { st := { out := { cpos := c2, cstat := s2 } } }) rfl
  rw [translateC_eq, translateC_eq]
  generalize loopC t mode input max _ { st := { out := { cpos := c1, cstat := s1 } } } = a at h ⊢
  generalize loopC t mode input max _ { st := { out := { cpos := c2, cstat := s2 } } } = b at h ⊢
  obtain ⟨sa, fin⟩ := a
  obtain ⟨sb, _⟩ := b
  obtain ⟨h1, rfl⟩ := h
  dsimp only
  rw [show sa.unsupported = sb.unsupported from (congrArg StC.unsupported h1 :)]
  exact ite_rel (erR · = erR ·) (fun _ => rfl) fun _ => ite_rel (erR · = erR ·) (fun _ => rfl) fun _ =>
    congrArg ResC.done (epilogue_er t input (congrArg StC.st h1 :))

open Lou.Drv Lou.Engine in
theorem modelEngineC_blind (t : Table) : C10.SpacingBlind (modelEngineC t) ∧ C10.CursorBlind (modelEngineC t) := by
  refine ⟨fun _ _ _ _ => rfl, C10.cursorBlind_of_passIn fun ini _ _ n ch m c1 s1 c2 s2 => ?_⟩
  unfold modelEngineC
  dsimp only
  split
  · have hb := translateC_cursor_blind t ini.mode ch m c1 s1 c2 s2
    generalize translateC t ini.mode ch m c1 s1 = r1 at hb
    generalize translateC t ini.mode ch m c2 s2 = r2 at hb
    cases r1 <;> cases r2 <;> simp only [erR, reduceCtorEq, ResC.done.injEq] at hb <;> try rfl
    obtain ⟨a, b, c⟩ := erRes_eq hb
    simp only [C10.erOut, a, b, c]
  · split <;> rfl

open Lou.Drv Lou.Engine in
theorem engineFor_blind (t : Table) : C10.SpacingBlind (Engine.engineFor t) ∧ C10.CursorBlind (Engine.engineFor t) :=
  engineFor_elim (P := fun e => C10.SpacingBlind e ∧ C10.CursorBlind e) t (modelEngineC_blind t)
    (CurBlind.modelEngine_blind t)

open Lou.Drv in
/-- C10 for every call the whole-call model covers: passing NULL for spacing or for cursorPos does not change return
    value, lengths or output text of what `MCALL` computes -/
theorem whole_call_optargs (tbl : Option TableInfo) (disp : Nat → Nat) (t : Table) (a : Args) (sp : Option (List Nat)) (c : Option Int) :
    C10.core (fwd tbl disp (Engine.engineFor t) { a with spacing := sp }) = C10.core (fwd tbl disp (Engine.engineFor t) { a with spacing := none }) ∧
    C10.core (fwd tbl disp (Engine.engineFor t) { a with cursor := c }) = C10.core (fwd tbl disp (Engine.engineFor t) { a with cursor := none }) :=
  ⟨C10.optargs_spacing tbl disp (Engine.engineFor t) a (engineFor_blind t).1 sp,
   C10.optargs_cursor tbl disp (Engine.engineFor t) a (engineFor_blind t).2 c⟩

end Lou.CurBlindC
