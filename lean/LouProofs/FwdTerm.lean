/-
  The forward main pass ends by itself (C03 for the two Layer B models) on every table whose character chains hold
  one-character rules (`CharChainsOK`): a rule from the chain of a character is taken without comparison, so nothing
  else says that it consumes a character.  `FwdTerm`: an iteration of `Fwd.step` that goes on consumes a character, so the
  `n + 2` fuel of `Fwd.translate` is never what stops it.  `FwdCTerm`: an iteration of `FwdC.stepC` that goes on lowers
  `FwdCOK.mu` = 2·(n − pos) + [posInc], which starts below the `2n + 2` of `FwdC.translateC`.
-/
import LouProofs.FwdOK
import LouProofs.C12Compile
import LouProofs.FwdCOK

namespace Lou.FwdTerm
open Lou Lou.Gen Lou.Fwd Lou.FwdOK

/-- proved of every compiled table (`charChainsOK_of_compile`).  For a checked DUMP the clause `charMember` of
    `C12.TableConsistent` says the same of the chains of `t.chars`; no theorem derives this predicate from it -/
def CharChainsOK (t : Table) : Prop :=
  ∀ (c i : Nat) (r : Rule), i ∈ (t.getChar c).chain → t.rule? i = some r → r.chars.length = 1

theorem selectRule_charslen (t : Table) (hwf : CharChainsOK t) (mode : Nat) (dc : Bool) (input : List Nat) (pos before prevOp : Nat) :
    1 ≤ (selectRule t mode dc input pos before prevOp).charslen := by
  refine selectRule_elim (P := fun s => 1 ≤ s.charslen) (fun s hs => ?_) (fun s hs => ?_) (Nat.le_refl _)
  · obtain ⟨i, -, r, -, rfl, hc⟩ := walk_some walkChain_eq_find hs
    exact validMatch_pos (Bool.and_eq_true_iff.mp (Bool.and_eq_true_iff.mp hc).1).2
  · obtain ⟨i, hi, r, hr, rfl, -⟩ := walk_some walkChain_eq_find hs
    exact Nat.le_of_eq (hwf _ i r hi hr).symm

theorem step_adv (t : Table) (hwf : CharChainsOK t) (mode : Nat) (input : List Nat) (max : Nat) (st : St)
    (h : (step t mode input max st).2 = false) : st.pos < (step t mode input max st).1.pos :=
  (step_spec t mode input max st).2 h (selectRule_charslen t hwf ..)

theorem step_end (t : Table) (mode : Nat) (input : List Nat) (max : Nat) (st : St) (h : st.pos = input.length) :
    (step t mode input max st).2 = true := by
  rw [step_eq]; simp [h]

theorem loop_fuel_le (t : Table) (hwf : CharChainsOK t) (mode : Nat) (input : List Nat) (max : Nat) (st : St)
    (hinv : StInv input.length max st) (a b : Nat) (ha : input.length - st.pos + 1 ≤ a) (hab : a ≤ b) :
    loop t mode input max b st = loop t mode input max a st := by
  rw [loop_eq_iter, loop_eq_iter]
  refine iter_fuel (StInv input.length max) (fun s => input.length - s.pos + 1) (fun s => (step_spec t mode input max s).1)
    (fun s hs hd => ?_) (fun s _ h => by omega) a st hinv ha b hab
  have := step_adv t hwf mode input max s hd
  have := ((step_spec t mode input max s).1 hs).2.1
  omega

/-- C03 for the F0 main pass: `n - pos + 1` iterations are enough -/
theorem loop_fuel (t : Table) (hwf : CharChainsOK t) (mode : Nat) (input : List Nat) (max : Nat) :
    ∀ (fuel : Nat) (st : St), StInv input.length max st → input.length - st.pos + 1 ≤ fuel →
      loop t mode input max (fuel + 1) st = loop t mode input max fuel st :=
  fun fuel st hinv h => loop_fuel_le t hwf mode input max st hinv fuel (fuel + 1) h (Nat.le_succ _)

/-- every compiled table has it, whatever its entries: by the compile invariant the chain of a character holds rules for
    that character alone (`C12.CharRecOK.chain`, members `CharM`) -/
theorem charChainsOK_of_compile {es : List Lou.Compile.Entry} {t : Table} (hc : Lou.Compile.compile es = some t) :
    CharChainsOK t := by
  have h := Lou.C12.compile_invF hc
  intro c i r hi hr
  cases hcr : t.char? c with
  | none => rw [Table.getChar_none hcr] at hi; cases hi
  | some rec =>
    rw [Table.getChar_some hcr] at hi
    obtain ⟨r', a, -, -, m⟩ := (h.chars rec (Table.char?_mem hcr)).chain.members i hi
    cases a.symm.trans hr
    exact congrArg List.length m

/-- the main pass of every compiled table ends inside its bound: more fuel than `translate` supplies
    (`input.length + 2`, on the initial state written out here: `Fwd.translate_eq`) changes nothing; `hop` is not used -/
theorem compile_translate_fuel (es : List Lou.Compile.Entry) (t : Table) (hop : ∀ e ∈ es, e.opcode ≠ CTO_Context)
    (hc : Lou.Compile.compile es = some t) (mode : Nat) (input : List Nat) (max : Nat) (cpos cstat : Int) (k : Nat) :
    loop t mode input max (input.length + 2 + k) { out := { cpos := cpos, cstat := cstat } } =
    loop t mode input max (input.length + 2) { out := { cpos := cpos, cstat := cstat } } :=
  loop_fuel_le t (charChainsOK_of_compile hc) mode input max _
    (stInv_init cpos cstat) _ _ (by show input.length - 0 + 1 ≤ _; omega) (Nat.le_add_right _ _)

/-- non-vacuity: the example entries of C12 compile, so the theorem speaks about an actual table -/
example : ∃ t, Lou.Compile.compile Lou.C12.exEntries = some t ∧ CharChainsOK t := by
  refine ⟨_, rfl, ?_⟩
  exact charChainsOK_of_compile (es := Lou.C12.exEntries) rfl

end Lou.FwdTerm

namespace Lou.FwdCTerm
open Lou Lou.Gen Lou.Fwd Lou.FwdC Lou.FwdOK Lou.FwdCOK Lou.FwdTerm

theorem selectRuleC_charslen (t : Table) (hwf : CharChainsOK t) (mode : Nat) (dc : Bool) (input : List Nat) (pos before prevOp : Nat)
    (posInc : Bool) (vars : List Nat) : 1 ≤ (selectRuleC t mode dc input pos before prevOp posInc vars).sel.charslen := by
  refine selectRuleC_elim (P := fun s => 1 ≤ s.sel.charslen) (fun s hs => ?_) (fun s hs => ?_) (Nat.le_refl _)
  · obtain ⟨i, -, r, -, rfl, hc⟩ := walk_some walkChainC_eq_find hs
    exact validMatch_pos ((C05Ctx.candidate_match hc).resolve_left nofun).2
  · obtain ⟨i, hi, r, hr, rfl, -⟩ := walk_some walkChainC_eq_find hs
    exact Nat.le_of_eq (hwf _ i r hi hr).symm

theorem stepC_end (t : Table) (mode : Nat) (input : List Nat) (max : Nat) (sc : StC) (h : sc.st.pos = input.length) :
    (stepC t mode input max sc).2 = true := by
  rw [stepC_eq]; simp [h]

/-- C03 for the main pass with context rules: the iteration bound of `translateC` is never what stops it -/
theorem loopC_total (t : Table) (hwf : CharChainsOK t) (mode : Nat) (input : List Nat) (max : Nat) (fuel : Nat) (sc : StC)
    (hinv : StInvC input.length max sc) (h : mu input.length sc < fuel) : (loopC t mode input max fuel sc).2 = true := by
  rw [loopC_eq_iter]
  exact iter_done (StInvC input.length max) (mu input.length) (fun s => (stepC_spec t mode input max s).1)
    (fun s hs hd => (stepC_spec t mode input max s).2 hs hd (selectRuleC_charslen t hwf ..)) fuel sc hinv h

theorem translateC_no_fuel (t : Table) (hwf : CharChainsOK t) (mode : Nat) (input : List Nat) (max : Nat) (cpos cstat : Int) :
    translateC t mode input max cpos cstat ≠ .fuel := by
  have h := loopC_total t hwf mode input max (2 * input.length + 2) _ (stInvC_init cpos cstat)
    (C06Pass.mu_init _)
  rw [translateC_eq]
  revert h
  rcases loopC t mode input max (2 * input.length + 2) _ with ⟨sc, fin⟩
  rintro rfl
  dsimp only
  split <;> nofun

end Lou.FwdCTerm
