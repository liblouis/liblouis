/-
  C13 — table compilation is total: a table or a clean, reported failure.

  Property text:
    "For any byte content of table files - valid, truncated, mutated or random - compilation either
     succeeds without delivering any error-level message, or fails by returning NULL/0 after
     delivering at least one; it never crashes, hangs, leaks memory or disturbs tables already
     loaded.  The outcome depends only on the file contents, and a rejected table is never handed
     out by a later lookup and has no effect on other tables: later compilations and translations
     behave as in a fresh process."

  Proved on three abstractions.  "Counted ⇔ logged" on the source inventory Gen/ErrorSites.lean (every
  `errorCount++`, every error-level log call and every other mention of `errorCount` in
  compileTranslationTable.c and pattern.c, regenerated from /repo by tools/lv/extract_errors.py on every
  run); it enters the rest as the hypothesis `Accounted` on a file.  "A table ⇔ no error counted", "failure
  is logged" and "a rejected table is not cached" on the control skeleton of compileTable and getTable
  (LouModel/CompileSkel.lean); getTable takes the outcome of compileTable as its parameter `compile`, and no
  theorem joins the two.  "No write past a CharsString, reading terminates" on the reader model
  (LouModel/Lexer.lean; `Q8` below is an entry of the list of quirks in its header), from the reader facts of
  C16.lean (`line_bound`, `getToken_tokens`, `getALine_progress`, `line_count`).

  NOT proved (searched by tools/lv/props/C13.py under ASan+UBSan+LSan with a tick budget): absence of
  crashes, leaks and hangs in the 4000 lines of compileRule and its helpers, and "behaves as in a fresh
  process" for the real allocator.
-/
import LouModel.Lexer
import LouModel.CompileSkel
import LouModel.Gen.ErrorSites
import LouProofs.Lemmas.LexTokens
import LouProofs.C16

namespace Lou.C13
open Lou Lou.CompileSkel

section Sites
open Lou.Gen.ErrorSites

/-- functions whose `errorCount++` has no log call in its own block: they count a NULL returned by
    `_lou_resolveTable`, whose default resolver has logged "Cannot resolve table" at error level -/
def countExceptions : List String := ["includeFile", "compileTable"]

structure LogException where
  func : String
  fmt : String
  exit : String
  reason : String

/-- error-level log calls that are neither `compileError` nor followed by `errorCount++` in their block: each is
    issued when the compilation has already failed, returns failure to a caller that counts, or is outside
    table compilation (`reason`) -/
def logExceptions : List LogException := [
  ⟨"compileRule", "result of macro expansion was: %s", "return 0",
    "after a nested compileRule returned 0; compileFile counts if nothing has (macros are compiled out in this build)"⟩,
  ⟨"lou_readCharFromFile", "Cannot open file '%s'", "return EOF", "utility for tools, not part of table compilation"⟩,
  ⟨"_lou_defaultTableResolver", "Cannot resolve table '%s'", "return NULL", "returns NULL: includeFile / compileTable count"⟩,
  ⟨"_lou_defaultTableResolver", "LOUIS_TABLEPATH=%s", "return NULL", "same block as the previous one"⟩,
  ⟨"includeFile", "%s:%d: Error in included file", "return rv", "guarded by `if (!rv)`, rv = !errorCount: already counted"⟩,
  ⟨"compileTable", "%d errors found.", "return 0", "else-branch of `if (!errorCount)`: already counted"⟩,
  ⟨"getTable", "%s could not be compiled", "return", "compileTable returned 0"⟩,
  ⟨"pattern_compile_expression", "%s:%d: error: Too many character attributes defined", "return 0",
    "pattern.c cannot see errorCount; returns 0 up to compileRule, compileFile counts (`Rule could not be compiled`)"⟩
]

def countOK (s : CountSite) : Bool := s.logInBlock || countExceptions.contains s.func

def logOK (s : LogSite) : Bool :=
  s.callee == "compileError" || s.countInBlock ||
  logExceptions.any (fun e => e.func == s.func && e.fmt == s.fmt && e.exit == s.exit)

/-- compileTranslationTable.c and pattern.c: every `errorCount++` has an error-level log call in its own
    block or counts a NULL from the table resolver, which has logged (`C20.resolver_fail_logs_error`); every
    error-level log call is `compileError` (logs once and counts: `compileError_body`), or has `errorCount++`
    in its block, or is one of `logExceptions`.  "In its block", "exit" and "lead" are the extractor's findings
    (`logInBlock`, `countInBlock`, `exit`, `lead` of Gen/ErrorSites.lean): to Lean they are data. -/
theorem error_sites : (countSites.all countOK && logSites.all logOK) = true := by decide +kernel

/-- no exception is stale: each matches a site of the inventory that needs it -/
theorem exceptions_used :
    (countExceptions.all (fun f => countSites.any (fun s => s.func == f && !s.logInBlock)) &&
     logExceptions.all (fun e => logSites.any (fun s => e.func == s.func && e.fmt == s.fmt && e.exit == s.exit &&
        !s.countInBlock && s.callee != "compileError"))) = true := by decide +kernel

/-- `compileError` itself: one of two log calls (if/else on `file`) and the increment, all directly in
    the function body -/
theorem compileError_body :
    (logSites.filter (·.func == "compileError")).map (fun s => (s.callee, s.depth, s.lead, s.countInBlock)) =
      [("_lou_logMessage", 1, "if ( file )", true), ("_lou_logMessage", 1, "else", true)] ∧
    (countSites.filter (·.func == "compileError")).map (fun s => (s.depth, s.logInBlock)) = [(1, true)] := by
  decide +kernel

/-- all resets of `errorCount`: compileTable and compileString (the fix of finding F7) start from zero, so the
    outcome of a compilation does not depend on what was compiled before; _lou_extParseDots clears a count it
    has reported -/
theorem counter_resets :
    (refs.filter (·.kind == "reset")).map (fun r => (r.func, r.stmt)) =
      [("_lou_extParseDots", "errorCount = 0"), ("compileString", "errorCount = warningCount = 0"),
       ("compileTable", "errorCount = warningCount = fileCount = 0")] := rfl

/-- all reads of `errorCount`; `CompileSkel` has the two that decide the outcome: compileFile's return value and
    compileTable's cleanup test -/
theorem counter_reads :
    (refs.filter (·.kind == "read")).map (fun r => (r.func, r.stmt)) =
      [("_lou_extParseDots", "if ( errorCount )"),
       ("compileFile", "if ( ! errorCount ) compileError ( & file , \"Rule could not be compiled\" )"),
       ("compileFile", "return ! errorCount"),
       ("compileTable", "if ( ! errorCount )"),
       ("compileTable", "_lou_logMessage ( LOU_LOG_ERROR , \"%d errors found.\" , errorCount )")] := rfl

/-- the constants that LouModel/Lexer.lean hard-codes are those extracted from the sources -/
theorem lexer_constants :
    Lexer.MAXSTRING = MAXSTRING ∧ Lexer.QUOTESUB = QUOTESUB ∧ Lexer.ENDSEGMENT = LOU_ENDSEGMENT ∧
    Lexer.DOTSBIT = LOU_DOTS ∧ CHARSIZE = 2 ∧
    ((List.range 9).map (fun i => Lexer.dotBit? (49 + i)) ++ (List.range 6).map (fun i => Lexer.dotBit? (97 + i))) = dotBits.map some ∧
    (List.range 6).map (fun i => Lexer.dotBit? (65 + i)) = (dotBits.drop 9).map some ∧
    first0Bit = [0x80, 0xC0, 0xE0, 0xF0, 0xF8, 0xFC, 0xFE] ∧
    (List.range 256).all (fun ch => 128 ≤ ch → Lexer.numBytes ch =
      ((List.range 7).filter (fun n => 0 < n ∧ first0Bit.getD n 0 ≤ ch)).foldl max 0) := by decide +kernel

end Sites

theorem not_early {i : CTIn} (hr : Requested i) :
    ¬((i.wantT = true ∧ i.tl = none) ∨ (i.wantD = true ∧ i.dl = none) ∨ (¬ i.wantT = true ∧ ¬ i.wantD = true)) := by
  obtain ⟨h1, h2, h3⟩ := hr
  rintro (⟨a, b⟩ | ⟨a, b⟩ | ⟨a, b⟩)
  · exact h1 a b
  · exact h2 a b
  · exact h3.elim a b

/-- compileTable returns a table ↔ errorCount = 0 at cleanup; success hands out exactly the requested
    tables and frees nothing; failure hands out nothing, frees everything it allocated, and has logged.
    `Requested` is forced by the code (`early_return_is_silent`).  That getTable calls so is checked only on a copy
    of the expressions of its two `need` flags, and for the first two clauses (`getTable_requests`). -/
theorem compile_outcome (i : CTIn) (hr : Requested i) :
    ((compileTable i).ret = true ↔ (compileTable i).errorCount = 0) ∧
    ((compileTable i).ret = true → (compileTable i).tbl = (if i.wantT then some tblT else none) ∧
      (compileTable i).dsp = (if i.wantD then some tblD else none) ∧ (compileTable i).freed = []) ∧
    ((compileTable i).ret = false → (compileTable i).tbl = none ∧ (compileTable i).dsp = none ∧
      (compileTable i).freed = (compileTable i).allocated ∧ 1 ≤ (compileTable i).errLogs) := by
  simp only [compileTable, if_neg (not_early hr)]
  by_cases he : (compileBody i).1 = 0
  · simp [he]
  · simp [he]

/-- the unrestricted statement is false: with a table pointer but no list compileTable fails silently -/
theorem early_return_is_silent :
    compileTable ⟨true, false, none, none, none, none, none, 1, ⟨0, 0⟩⟩ = ⟨false, none, none, 0, 0, [], []⟩ := by decide +kernel

/-- what `error_sites` says about one file, as a hypothesis on the abstraction.  For the callees that log
    without counting (pattern.c, see `logExceptions`) the first half rests on compileFile's fallback
    `if (!errorCount) compileError("Rule could not be compiled")`.  The proofs below use the first half only. -/
def Accounted (f : FileOut) : Prop := (f.errs = 0 → f.logs = 0) ∧ (f.errs ≠ 0 → 1 ≤ f.logs)

theorem compileFiles_logs (fs : List FileOut) (h : ∀ f ∈ fs, Accounted f) {ec lg : Nat} (h0 : ec = 0 → lg = 0) :
    (compileFiles fs ec lg).1 = 0 → (compileFiles fs ec lg).2.1 = 0 := by
  induction fs generalizing ec lg with
  | nil => simpa [compileFiles] using h0
  | cons f r ih =>
    rw [compileFiles]
    by_cases hc : ec + f.errs ≠ 0
    · rw [if_pos hc]; intro h'; exact absurd h' hc
    · rw [if_neg hc]
      have hz : ec = 0 ∧ f.errs = 0 := by omega
      have hf := (h f (by simp)).1 hz.2
      exact ih (fun g hg => h g (by simp [hg])) (fun _ => by rw [h0 hz.1, hf])

theorem compileBody_logs (i : CTIn) (hp : Accounted i.pre)
    (hT : ∀ fs, i.resolveT = some fs → ∀ f ∈ fs, Accounted f)
    (hD : ∀ fs, i.resolveD = some fs → ∀ f ∈ fs, Accounted f)
    (hB : ∀ fs, i.resolveBoth = some fs → ∀ f ∈ fs, Accounted f) :
    (compileBody i).1 = 0 → (compileBody i).2 = 0 := by
  have hp0 : i.pre.errs = 0 → i.pre.logs = 0 := hp.1
  unfold compileBody
  by_cases hsame : i.wantD = true ∧ i.wantT = true ∧ i.tl = i.dl
  · rw [if_pos hsame]
    cases hb : i.resolveBoth with
    | none => simp
    | some fs => exact compileFiles_logs fs (hB fs hb) hp0
  · rw [if_neg hsame]
    extract_lets d
    -- "no count, no log" holds after the display stage, and the translation stage, taken or not, keeps it
    have hd : d.1 = 0 → d.2.1 = 0 := by
      unfold d
      by_cases hwd : i.wantD = true
      · rw [if_pos hwd]
        cases hr : i.resolveD with
        | none => simp
        | some fd => exact compileFiles_logs fd (hD fd hr) hp0
      · rw [if_neg hwd]; exact hp0
    by_cases hs : d.2.2 = true
    · rw [if_pos hs]; exact hd
    · rw [if_neg hs]
      by_cases hwt : i.wantT = true
      · rw [if_pos hwt]
        cases ht : i.resolveT with
        | none => simp
        | some ft => exact compileFiles_logs ft (hT ft ht) hd
      · rw [if_neg hwt]; exact hd

/-- success ⇒ no error-level message was delivered (given that files are accounted as `error_sites` says) -/
theorem success_without_error_log (i : CTIn) (hr : Requested i) (hp : Accounted i.pre)
    (hT : ∀ fs, i.resolveT = some fs → ∀ f ∈ fs, Accounted f)
    (hD : ∀ fs, i.resolveD = some fs → ∀ f ∈ fs, Accounted f)
    (hB : ∀ fs, i.resolveBoth = some fs → ∀ f ∈ fs, Accounted f) :
    (compileTable i).ret = true → (compileTable i).errLogs = 0 := by
  have := compileBody_logs i hp hT hD hB
  simp only [compileTable, if_neg (not_early hr)]
  by_cases he : (compileBody i).1 = 0
  · simp [he, this he]
  · simp [he]

/-- failure ⇒ at least one error-level message (the cleanup's own "%d errors found." if nothing else) -/
theorem failure_logged (i : CTIn) (hr : Requested i) : (compileTable i).ret = false → 1 ≤ (compileTable i).errLogs :=
  fun h => ((compile_outcome i hr).2.2 h).2.2.2

theorem find?_absent {k : String} {c : Chain} (h : k ∉ keys c) : c.find? (·.1 = k) = none :=
  List.find?_eq_none.mpr fun _ he hk => h (of_decide_eq_true hk ▸ List.mem_map_of_mem (f := (·.1)) he)

theorem moveFront_absent {k : String} {c : Chain} (h : k ∉ keys c) : moveFront k c = c := by
  rw [moveFront, find?_absent h]

theorem find_absent {k : String} {c : Chain} (h : k ∉ keys c) : find k c = none := by
  rw [find, find?_absent h]; rfl

theorem moveFront_perm (k : String) (c : Chain) : (moveFront k c).Perm c := by
  unfold moveFront
  cases hf : c.find? (·.1 = k) with
  | none => exact .refl _
  | some e =>
    obtain ⟨pe, as, bs, rfl, has⟩ := List.find?_eq_some_iff_append.mp hf
    rw [List.eraseP_append_right _ (fun a ha => by simpa using has a ha), List.eraseP_cons, pe]
    exact List.perm_middle.symm

theorem failed_compile_no_insert (compile : Option String → Option String → Bool → Bool → CompileRes)
    (c : Chains) (tl dl : Option String) (hfail : ∀ nT nD, (compile tl dl nT nD).ok = false) :
    (getTable compile c tl dl).chains =
      ⟨match tl with | none => c.t | some k => moveFront k c.t, match dl with | none => c.d | some k => moveFront k c.d⟩ := by
  cases tl <;> cases dl <;> simp [getTable, hfail] <;> split <;> rfl

theorem getTable_absent (compile : Option String → Option String → Bool → Bool → CompileRes)
    {c : Chains} {kt kd : String} (hT : kt ∉ keys c.t) (hD : kd ∉ keys c.d) :
    getTable compile c (some kt) (some kd) =
      let r := compile (some kt) (some kd) true true
      if r.ok then
        ⟨r.newT, r.newD, ⟨match r.newT with | some v => (kt, v) :: c.t | none => c.t,
          match r.newD with | some v => (kd, v) :: c.d | none => c.d⟩, r.errLogs, true⟩
      else ⟨none, none, c, r.errLogs + 1, true⟩ := by
  simp only [getTable, find_absent hT, find_absent hD, moveFront_absent hT, moveFront_absent hD,
    Option.isSome_some, Option.isNone_none, Bool.and_self, Bool.or_self, if_true]
  -- the model matches on the pair (list, new table)
  cases (compile (some kt) (some kd) true true).newT <;> cases (compile (some kt) (some kd) true true).newD <;> rfl

/-- a failed compilation leaves both chains exactly as they were, hands out no table and logs
    "%s could not be compiled" -/
theorem failed_compile_inert (compile : Option String → Option String → Bool → Bool → CompileRes)
    (c : Chains) (kt kd : String) (hfail : ∀ nT nD, (compile (some kt) (some kd) nT nD).ok = false)
    (hT : kt ∉ keys c.t) (hD : kd ∉ keys c.d) :
    let o := getTable compile c (some kt) (some kd)
    o.chains = c ∧ o.tbl = none ∧ o.dsp = none ∧ o.compiled = true ∧ 1 ≤ o.errLogs := by
  simp [getTable_absent compile hT hD, hfail]

theorem rejected_not_cached (compile : Option String → Option String → Bool → Bool → CompileRes)
    (c : Chains) (kt kd : String) (hfail : ∀ nT nD, (compile (some kt) (some kd) nT nD).ok = false)
    (hT : kt ∉ keys c.t) (hD : kd ∉ keys c.d) :
    kt ∉ keys (getTable compile c (some kt) (some kd)).chains.t ∧ kd ∉ keys (getTable compile c (some kt) (some kd)).chains.d := by
  rw [(failed_compile_inert compile c kt kd hfail hT hD).1]
  exact ⟨hT, hD⟩

/-- a later lookup of the rejected list compiles it again and fails again: it is never handed out -/
theorem rejected_again (compile : Option String → Option String → Bool → Bool → CompileRes)
    (c : Chains) (kt kd : String) (hfail : ∀ nT nD, (compile (some kt) (some kd) nT nD).ok = false)
    (hT : kt ∉ keys c.t) (hD : kd ∉ keys c.d) :
    let c' := (getTable compile c (some kt) (some kd)).chains
    (getTable compile c' (some kt) (some kd)).tbl = none ∧ (getTable compile c' (some kt) (some kd)).compiled = true := by
  have h1 := failed_compile_inert compile c kt kd hfail hT hD
  rw [h1.1]
  exact ⟨h1.2.1, h1.2.2.2.1⟩

/-- whatever is cached, a failed compilation only reorders the chains: the other tables stay -/
theorem failed_compile_keeps_entries (compile : Option String → Option String → Bool → Bool → CompileRes)
    (c : Chains) (tl dl : Option String) (hfail : ∀ nT nD, (compile tl dl nT nD).ok = false) :
    (getTable compile c tl dl).chains.t.Perm c.t ∧ (getTable compile c tl dl).chains.d.Perm c.d := by
  rw [failed_compile_no_insert compile c tl dl hfail]
  constructor
  · cases tl with
    | none => exact List.Perm.refl _
    | some k => exact moveFront_perm k c.t
  · cases dl with
    | none => exact List.Perm.refl _
    | some k => exact moveFront_perm k c.d

/-- getTable asks compileTable only for tables whose list it has, which is `Requested`.  The statement speaks of
    the two `need` flags as the body of `getTable` computes them, copied here; it does not mention `getTable`. -/
theorem getTable_requests (c : Chains) (tl dl : Option String) :
    let needT := tl.isSome && (match tl with | none => none | some k => find k c.t).isNone
    let needD := dl.isSome && (match dl with | none => none | some k => find k c.d).isNone
    (needT = true → tl ≠ none) ∧ (needD = true → dl ≠ none) := by
  cases tl <;> cases dl <;> simp

/-- for empty or NULL lists getTable does not call compileTable at all: lou_getTable("") returns NULL without
    any message -/
theorem empty_list_is_silent (compile : Option String → Option String → Bool → Bool → CompileRes) (c : Chains) :
    getTable compile c none none = ⟨none, none, c, 0, false⟩ := by
  simp [getTable]

/-- a successful compilation is inserted at the head and found by the next lookup without compiling -/
theorem success_cached (compile : Option String → Option String → Bool → Bool → CompileRes)
    (c : Chains) (k : String) (v w : Tbl) (hok : compile (some k) (some k) true true = ⟨true, some v, some w, 0⟩)
    (hT : k ∉ keys c.t) (hD : k ∉ keys c.d) :
    let o := getTable compile c (some k) (some k)
    o.tbl = some v ∧ o.dsp = some w ∧ (getTable compile o.chains (some k) (some k)).compiled = false ∧
    (getTable compile o.chains (some k) (some k)).tbl = some v := by
  simp only [getTable_absent compile hT hD, hok]
  -- the second lookup finds both entries at the head
  simp [getTable, find]

section Bounds
open Lou.Lexer

theorem parseDots_bound (tok out : List Nat) (h : parseDots tok = .ok out) : out.length ≤ tok.length := by
  obtain ⟨s, hs, hf⟩ := bind_ok h
  have := foldlM_dots_len tok _ s hs
  unfold dotsFinish at hf
  cases hc : s.cur with
  | none => rw [hc] at hf; cases hf
  | some cell =>
    rw [hc] at hf this
    injection hf with hf
    simp at this
    rw [← hf]; simp; omega

/-- no write past a `CharsString` (capacity MAXSTRING) or `FileInfo.line` in the reader:
    (1) a line of any file has ≤ MAXSTRING-1 characters, so its terminator goes to index ≤ MAXSTRING-1;
    (2) a token of such a line has < MAXSTRING characters: getToken's terminator stays inside, the
        `overflow`/`tooLong` outcomes of the model are unreachable;
    (3) parseChars writes ≤ MAXSTRING-1 characters whatever the token, and reports no more than it wrote;
    (4) parseDots yields ≤ |token| cells;
    (5) _lou_extParseChars / _lou_extParseDots look at ≤ MAXSTRING-1 bytes of their argument. -/
theorem lexer_bounds :
    (∀ bs : List Nat, ∀ l ∈ (fileLines bs).1, l.length ≤ MAXSTRING - 1) ∧
    (∀ l : List Nat, l.length < MAXSTRING →
      match getToken l with
      | .none => True
      | .tok t r => t.length < MAXSTRING ∧ r.length < l.length
      | _ => False) ∧
    (∀ (tok : List Nat) (term : Nat), (parseChars tok term).chars.length ≤ MAXSTRING - 1 ∧
      (parseChars tok term).length ≤ (parseChars tok term).chars.length) ∧
    (∀ tok out : List Nat, parseDots tok = .ok out → out.length ≤ tok.length) ∧
    (∀ bs : List Nat, (extWiden bs).length ≤ MAXSTRING - 1) := by
  refine ⟨C16.line_bound, ?_, parseChars_bound, parseDots_bound, extWiden_bound⟩
  intro l hl
  have := C16.getToken_tokens l hl
  generalize getToken l = g at this ⊢
  cases g with
  | none => trivial
  | tok t r => exact ⟨this.2.1, this.2.2.2⟩
  | _ => exact this

end Bounds

/-- Q8 is real: a line of MAXSTRING non-blank characters (which the reader never produces) makes getToken
    write its terminator one element past the CharsString -/
theorem getToken_guard_is_off_by_one :
    Lou.Lexer.getToken (List.replicate Lou.Lexer.MAXSTRING 97) = .overflow (List.replicate Lou.Lexer.MAXSTRING 97) := by
  -- evaluation would walk the 2048 elements; on a `replicate` both scans are one rewrite each
  generalize hn : Lou.Lexer.MAXSTRING = n
  have h1 : (List.replicate n 97).dropWhile (· ≤ 32) = List.replicate n 97 := by
    rw [List.dropWhile_replicate]; rfl
  have h2 : (List.replicate n 97).takeWhile (32 < ·) = List.replicate n 97 := by
    rw [List.takeWhile_replicate]; rfl
  simp only [Lou.Lexer.getToken, h1, h2, List.length_replicate, hn]
  rw [if_neg (Nat.lt_irrefl n), if_neg (by subst hn; decide)]
  exact if_pos trivial

/-- reading terminates: every call of _lou_getALine uses up a unit of `mu` or returns 0 at the end of the
    characters.  The statement of `C16.getALine_progress`, once more under this property's name. -/
theorem getALine_progress (bs : List Nat) (h : Lou.Lexer.Hdr) (hw : h.wf) :
    match Lou.Lexer.getALine bs h with
    | (ret, _, bs', h') =>
      h'.wf ∧ Lou.Lexer.mu bs' h' ≤ Lou.Lexer.mu bs h ∧ (ret = true → Lou.Lexer.mu bs' h' < Lou.Lexer.mu bs h) ∧
      (ret = false → Lou.Lexer.remaining bs' h' = []) := C16.getALine_progress bs h hw

/-- weaker by one than `C16.line_count` -/
theorem line_count (bs : List Nat) : (Lou.Lexer.fileLines bs).1.length ≤ bs.length + 1 :=
  Nat.le_succ_of_le (C16.line_count bs)

example : Requested ⟨true, true, some "a.ctb", some "a.ctb", none, none, some [⟨0, 0⟩], 1, ⟨0, 0⟩⟩ := by
  refine ⟨fun _ => by simp, fun _ => by simp, Or.inl rfl⟩
example : compileTable ⟨true, true, some "a.ctb", some "a.ctb", none, none, some [⟨0, 0⟩, ⟨0, 0⟩], 1, ⟨0, 0⟩⟩
    = ⟨true, some tblT, some tblD, 0, 0, [tblT, tblD], []⟩ := by decide +kernel
example : compileTable ⟨true, true, some "a.ctb", some "a.ctb", none, none, some [⟨0, 0⟩, ⟨2, 2⟩, ⟨5, 5⟩], 1, ⟨0, 0⟩⟩
    = ⟨false, none, none, 2, 3, [tblT, tblD], [tblT, tblD]⟩ := by decide +kernel
example : compileTable ⟨true, true, some "a.ctb", some "b.dis", some [⟨0, 0⟩], none, none, 1, ⟨0, 0⟩⟩
    = ⟨false, none, none, 1, 2, [tblT, tblD], [tblT, tblD]⟩ := by decide +kernel
example : (getTable (fun _ _ _ _ => ⟨false, none, none, 3⟩) ⟨[("g.ctb", 7)], [("g.ctb", 8)]⟩ (some "m.ctb") (some "m.ctb")) =
    ⟨none, none, ⟨[("g.ctb", 7)], [("g.ctb", 8)]⟩, 4, true⟩ := by decide +kernel

end Lou.C13
