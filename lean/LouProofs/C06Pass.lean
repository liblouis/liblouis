/-
  The Layer B model of the multipass stages (LouModel/Pass.lean), both directions: the stage scanner satisfies the
  engine contract of Layer A and never reaches its iteration bound 2n+2 (the bound of C03, here for a real engine and
  not an abstract one); in a chain that is in order the rule it applies has, among the rules that match,
  the longest key and is the earliest defined of those (`select_best`); an action of literals replaces what stands
  between the brackets and nothing else (`fwdAction_replaces_brackets`, `backAction_replaces_brackets`).  What a test,
  the chain walk and an action guarantee one by one is in `Lemmas/Pass.lean` (among it `fwdTest_bounds`,
  `backTest_bounds` and `select_first`, which C06 claims too).

  The scanners are reasoned about by functional induction (the header of `Lemmas/Pass.lean` says what `caseN` is).
  Their local `finish` and the guarded selection have no name in `Pass.lean`, so `finish_le`, `finishB_ok` and `sel_rule`
  are stated on a copy of that text (the trap described in that header).
-/
import LouProofs.Lemmas.Pass

namespace Lou.C06Pass

open Lou Lou.Pass Lou.Gen

/-- in a chain that is in order (what `passTableOK` checks on the compiled table) the rule applied at a position has,
    among all eligible rules whose test matches there, a key of maximal length, and among those of that length it is
    the one defined first -/
theorem select_best (c : Ctx) (back : Bool) (pass : Nat) (rules : List Rule) (input : List Nat) (pos : Int)
    (hs : chainSorted rules = true)
    (r : Rule) (m : Match) (ic : Nat) (h : select c back pass rules input pos = .rule r m ic)
    (q : Rule) (hq : q ∈ rules) (hqe : eligible back pass q = true) (m' : Match) (ic' : Nat)
    (hqt : testOf c back q input pos = .ok m' ic') :
    q = r ∨ Before r q := by
  obtain ⟨pre, post, hr, -, -, hpre⟩ := select_first c back pass rules input pos r m ic h
  subst hr
  rcases List.mem_append.mp hq with hq | hq
  · cases hqt.symm.trans (hpre q hq hqe)
  · rcases List.mem_cons.mp hq with rfl | hq
    · exact Or.inl rfl
    · have hp := (List.pairwise_append.mp (chainSorted_pairwise _ hs)).2.1
      exact .inr (List.rel_of_pairwise_cons hp hq)

/-- the action part from `ic` on consists of literals and omits only (no copy, nothing unsupported) -/
def plainAction (p : List Nat) : Nat → Nat → Bool
  | 0, _ => false
  | fuel + 1, ic =>
    if ic ≥ p.length then true
    else if ins p ic == pass_string || ins p ic == pass_dots then plainAction p fuel (ic + ins p (ic + 1) + 2)
    else if ins p ic == pass_omit then plainAction p fuel (ic + 1)
    else false

/-- the cells such an action writes: the concatenation of its literals — a function of the rule alone -/
def emitted (p : List Nat) : Nat → Nat → List Nat
  | 0, _ => []
  | fuel + 1, ic =>
    if ic ≥ p.length then []
    else if ins p ic == pass_string || ins p ic == pass_dots then literal p ic ++ emitted p fuel (ic + ins p (ic + 1) + 2)
    else if ins p ic == pass_omit then emitted p fuel (ic + 1)
    else []

theorem fwdActLoop_plain (t : Table) (p input : List Nat) (m : Match) (max dsm : Nat) :
    ∀ (fuel ic : Nat) (a : Acc) (dsr : Nat) (np : Int) (vars : List Nat) (a' : Acc) (np' : Int) (vars' : List Nat),
      plainAction p fuel ic = true →
      fwdActLoop t p input m max dsm fuel ic a dsr np vars = .ok a' np' vars' →
      a'.out = a.out ++ emitted p fuel ic ∧ np' = np := by
  intro fuel ic a dsr np vars a' np' vars' hp h
  fun_induction plainAction p fuel ic generalizing a
  -- 1 out of fuel; 2 end of the program; 3 a literal; 4 omit; 5 anything else
  case case1 | case5 => cases hp
  case case2 hic =>
    simp only [fwdActLoop, emitted, hic, ↓reduceIte] at h ⊢
    cases h; simp
  case case3 hic hlit ih =>
    simp only [fwdActLoop, emitted, hic, hlit, ↓reduceIte] at h ⊢
    split at h
    · cases h
    · rw [← List.append_assoc]; exact ih _ hp h
  case case4 hic hlit hom ih =>
    simp only [fwdActLoop, emitted, hic, hlit, hom, ↓reduceIte, Bool.false_eq_true] at h ⊢
    exact ih _ hp h

/-- an action made of literals (or an omit) appends to the output exactly the matched characters in front of the
    bracket, verbatim, and then the literals of the rule, and the scanner continues at endReplace: nothing outside the
    brackets is replaced, and nothing behind them is consumed -/
theorem fwdAction_replaces_brackets (t : Table) (p input : List Nat) (m : Match) (ic max : Nat) (a a' : Acc) (np : Int)
    (vars vars' : List Nat) (hp : plainAction p (p.length + 1) ic = true)
    (h : fwdAction t p input m ic max a vars = .ok a' np vars') :
    a'.out = a.out ++ slice input m.startMatch m.startReplace ++ emitted p (p.length + 1) ic ∧ np = m.endReplace := by
  unfold fwdAction at h
  split at h
  · cases h
  · next a1 hcp =>
    rw [← fwdCopy_out hcp]
    exact fwdActLoop_plain t p input m max _ _ _ _ _ _ _ _ _ _ hp h

theorem backActLoop_plain (p input : List Nat) (m : Match) (max dsm : Nat) :
    ∀ (fuel ic : Nat) (a : Acc) (dsr : Nat) (np : Int) (vars : List Nat) (a' : Acc) (np' : Int) (vars' : List Nat),
      plainAction p fuel ic = true →
      backActLoop p input m max dsm fuel ic a dsr np vars = .ok a' np' vars' →
      a'.out = a.out ++ emitted p fuel ic ∧ np' = np := by
  intro fuel ic a dsr np vars a' np' vars' hp h
  fun_induction plainAction p fuel ic generalizing a
  -- 1 out of fuel; 2 end of the program; 3 a literal; 4 omit; 5 anything else
  case case1 | case5 => cases hp
  case case2 hic =>
    simp only [backActLoop, emitted, hic, ↓reduceIte] at h ⊢
    cases h; simp
  case case3 hic hlit ih =>
    simp only [backActLoop, emitted, hic, hlit, ↓reduceIte] at h ⊢
    split at h
    · cases h
    · rw [← List.append_assoc]; exact ih _ hp h
  case case4 hic hlit hom ih =>
    simp only [backActLoop, emitted, hic, hlit, hom, ↓reduceIte, Bool.false_eq_true] at h ⊢
    exact ih _ hp h

theorem backAction_replaces_brackets (p input : List Nat) (m : Match) (ic max : Nat) (a a' : Acc) (np : Int)
    (vars vars' : List Nat) (hp : plainAction p (p.length + 1) ic = true)
    (h : backAction p input m ic max a vars = .ok a' np vars') :
    a'.out = a.out ++ slice input m.startMatch m.startReplace ++ emitted p (p.length + 1) ic ∧ np = m.endReplace := by
  unfold backAction at h
  split at h
  · cases h
  · next a1 hcp =>
    rw [← backCopy_out hcp]
    -- `( … :)`: the accumulator is read off `h` (its map has been overwritten); the goal knows only its `out`
    exact (backActLoop_plain p input m max _ _ _ _ _ _ _ _ _ _ hp h :)

/-- the engine contract of Layer A (`Contract`) for one stage: E1 output within the capacity, E2 one map entry per
    cell, E3 consumed length within the input, E4 and E5 together: map entries inside [0, n] (E4 alone allows −1) -/
def StageOK (n max : Nat) (o : StageOut) : Prop :=
  o.out.length ≤ max ∧ o.map.length = o.out.length ∧ o.realInlen ≤ n ∧ ∀ x ∈ o.map, 0 ≤ x ∧ x ≤ (n : Int)

theorem AccOK.stage {n max : Nat} {a : Acc} (ha : AccOK n max a) {ri : Nat} (hr : ri ≤ n) (applied : List Nat) :
    StageOK n max ⟨a.out, a.map, ri, applied⟩ := ⟨ha.2.1, ha.1, hr, ha.2.2⟩

/-- where a stage that stops early reports to have read to -/
theorem finish_le (t : Table) (pass : Nat) (input : List Nat) {pos : Int} (hn : pos ≤ input.length) :
    (if pass == 0 then pos.toNat else skipSpaces t input input.length pos.toNat) ≤ input.length := by
  split
  · omega
  · exact (skipSpaces_le t input _ _ (by omega)).1

theorem sel_rule {b : Bool} {s : Sel} {r : Rule} {m : Match} {ic : Nat}
    (h : (if b = true then s else Sel.none) = .rule r m ic) : b = true ∧ s = .rule r m ic := by
  split at h
  · exact ⟨‹_›, h⟩
  · cases h

/-- a trap: this is the first `match` of the file with the three patterns of `StageRes`, so the matcher Lean makes for
    it (`fwdLoop_ok.match_1`) is the one every later such `match` of the file is elaborated with, whatever its result
    type and namespace: the statements of `fwdStage_contract` and `backStage_contract` hold its name.  A declaration
    with such a `match` placed in front of this one in this file would put its own name there (imported files do not
    count: a matcher is shared within a file only) -/
theorem fwdLoop_ok (t : Table) (pass : Nat) (rules : List Rule) (input : List Nat) (max : Nat) :
    ∀ (fuel : Nat) (pos : Int) (posInc : Bool) (a : Acc) (applied vars : List Nat),
      0 ≤ pos → pos ≤ input.length → AccOK input.length max a → mu input.length pos posInc < fuel →
      match fwdLoop t pass rules input max fuel pos posInc a applied vars with
      | .unsupported => True
      | .fuel => False
      | .done o => StageOK input.length max o := by
  intro fuel pos posInc a applied vars hp0 hpn ha hmu
  fun_induction fwdLoop t pass rules input max fuel pos posInc a applied vars
  -- out of fuel (the measure excludes it); end of the input; `.unsupported` from the selection (3) or the action (6)
  case case1 => omega
  case case2 => exact ha.stage (by omega) _
  case case3 | case6 => trivial
  -- no rule: the output is full, or the element is copied and the guard opens
  case case4 => exact ha.stage (finish_le t pass input hpn) _
  case case5 hend _ _ hcap ih =>
    exact ih (by omega) (by omega) (ha.push (xs := [_]) (Nat.le_of_not_gt hcap) ⟨hp0, hpn⟩)
      (Nat.lt_of_lt_of_le (mu_advance _ _ hp0 (by omega) (by omega)) (Nat.le_of_lt_succ hmu))
  -- a rule: its action does not fit, or the scanner goes on where the action says
  case case7 hsel _ _ hact =>
    exact (fwdAction_ok (select_matchOK (sel_rule hsel).2) hp0 ha hact).stage (finish_le t pass input hpn) _
  case case8 hend _ _ _ _ hsel _ np _ hact ih =>
    obtain ⟨rfl, hsel⟩ := sel_rule hsel
    have hm := select_matchOK hsel
    obtain ⟨hacc, hnp⟩ := fwdAction_ok hm hp0 ha hact
    have hnp := hm.newPos hnp
    exact ih (by omega) hnp.2 hacc
      (Nat.lt_of_lt_of_le (mu_rule hp0 (by omega) hnp.1 (by simp)) (Nat.le_of_lt_succ hmu))

/-- the forward stage scanner (`makeCorrections`, `translatePass`) never hits its iteration bound 2n+2 and its result
    satisfies the engine contract E1–E4 -/
theorem fwdStage_contract (t : Table) (pass : Nat) (input : List Nat) (max : Nat) :
    match fwdStage t pass input max with
    | .unsupported => True
    | .fuel => False
    | .done o => StageOK input.length max o :=
  fwdLoop_ok t pass _ input max _ 0 true _ _ _ (Int.le_refl 0) (Int.natCast_nonneg _) ⟨rfl, Nat.zero_le _, nofun⟩
    (mu_init _)

theorem fwdStage_total (t : Table) (pass : Nat) (input : List Nat) (max : Nat) :
    fwdStage t pass input max ≠ .fuel := by
  have := fwdStage_contract t pass input max
  intro h; rw [h] at this; exact this

/-- the backward engine contract: E1 output within the capacity, one map entry per input position, E3 consumed
    length within the input -/
def StageOKB (n max : Nat) (o : StageOut) : Prop :=
  o.out.length ≤ max ∧ o.map.length = n ∧ o.realInlen ≤ n

theorem AccB.stage {n max : Nat} {a : Acc} (ha : AccB n max a) {ri : Nat} (hr : ri ≤ n) (applied : List Nat) :
    StageOKB n max ⟨a.out, a.map, ri, applied⟩ := ⟨ha.2, ha.1, hr⟩

/-- the result of a backward stage that stops early -/
theorem finishB_ok (t : Table) (pass : Nat) (input : List Nat) {max : Nat} {pos : Int} {a : Acc} (applied : List Nat)
    (hn : pos ≤ input.length) (ha : AccB input.length max a) :
    match (if pass == 0 then StageRes.done { out := a.out, map := a.map, realInlen := pos.toNat, applied := applied }
      else
        let p' := skipSpaces t input input.length pos.toNat
        .done { out := a.out, map := setRange a.map pos p' a.out.length, realInlen := p', applied := applied }) with
    | .unsupported => True
    | .fuel => False
    | .done o => StageOKB input.length max o := by
  by_cases h : (pass == 0) = true
  · rw [if_pos h]; exact ha.stage (by omega) _
  · rw [if_neg h]; exact (ha.setRange ..).stage (skipSpaces_le t input _ _ (by omega)).1 _

theorem backLoop_ok (t : Table) (pass : Nat) (rules : List Rule) (input : List Nat) (max : Nat) :
    ∀ (fuel : Nat) (pos : Int) (posInc : Bool) (a : Acc) (applied vars : List Nat),
      0 ≤ pos → pos ≤ input.length → AccB input.length max a → mu input.length pos posInc < fuel →
      match backLoop t pass rules input max fuel pos posInc a applied vars with
      | .unsupported => True
      | .fuel => False
      | .done o => StageOKB input.length max o := by
  intro fuel pos posInc a applied vars hp0 hpn ha hmu
  fun_induction backLoop t pass rules input max fuel pos posInc a applied vars
  -- the eight cases of `fwdLoop_ok`
  case case1 => omega
  case case2 => exact ha.stage (by omega) _
  case case3 | case6 => trivial
  case case4 => exact finishB_ok t pass input _ hpn ha
  case case5 hend _ _ hcap ih =>
    exact ih (by omega) (by omega) ⟨(setRange_length ..).trans ha.1, by simp only [List.length_append, List.length_singleton]; omega⟩
      (Nat.lt_of_lt_of_le (mu_advance _ _ hp0 (by omega) (by omega)) (Nat.le_of_lt_succ hmu))
  case case7 hact => exact finishB_ok t pass input _ hpn (backAction_ok ha hact)
  case case8 hend _ _ _ _ hsel _ np _ hact ih =>
    obtain ⟨rfl, hsel⟩ := sel_rule hsel
    obtain ⟨hacc, hnp⟩ := backAction_ok ha hact
    have hnp := (select_matchOKB hp0 hsel).newPos hnp
    exact ih (by omega) hnp.2 hacc
      (Nat.lt_of_lt_of_le (mu_rule hp0 (by omega) hnp.1 (by simp; omega)) (Nat.le_of_lt_succ hmu))

/-- the backward stage scanner never hits its iteration bound and its result satisfies the clauses of the backward
    engine contract the driver theorems need (E1, E3) plus a map entry for every input position -/
theorem backStage_contract (t : Table) (pass : Nat) (input : List Nat) (max : Nat) :
    match backStage t pass input max with
    | .unsupported => True
    | .fuel => False
    | .done o => StageOKB input.length max o :=
  backLoop_ok t pass _ input max _ 0 true _ _ _ (Int.le_refl 0) (Int.natCast_nonneg _) ⟨List.length_replicate, Nat.zero_le _⟩
    (mu_init _)

theorem backStage_total (t : Table) (pass : Nat) (input : List Nat) (max : Nat) :
    backStage t pass input max ≠ .fuel := by
  have := backStage_contract t pass input max
  intro h; rw [h] at this; exact this

/-! ### the hypotheses are satisfiable: `noback pass2 @1[@2] @3` on the cells 1 2 1 -/

def exProg : List Nat := [pass_dots, 1, 1, pass_startReplace, pass_dots, 1, 2, pass_endReplace, pass_endTest, pass_dots, 1, 3]
def exRule : Rule := { idx := 5, opcode := CTO_Pass2, chars := [1], dots := exProg }
def exDots : List DotsRec := [⟨1, CTC_Letter, none, []⟩, ⟨2, CTC_Letter, none, []⟩, ⟨3, CTC_Letter, none, []⟩]
def exTable : Table := { numPasses := 2, rules := [exRule], forPass := [(2, [5])], dots := exDots }

example : fwdStage exTable 2 [1, 2, 1] 10 = .done ⟨[1, 3, 1], [0, 1, 2], 3, [5]⟩ := by decide +kernel
example : select ⟨exTable, true, []⟩ false 2 [exRule] [1, 2, 1] 0 = .rule exRule ⟨0, 1, 2, 2⟩ 9 := by decide +kernel
example : plainAction exProg (exProg.length + 1) 9 = true ∧ emitted exProg (exProg.length + 1) 9 = [3] := by decide +kernel
example : keyOf exRule = some exRule.chars ∧ chainSorted [exRule] = true ∧ passTableOK exTable = [] := by decide +kernel
/-- capacity 1: the stage stops in front of the rule it cannot complete, keeping the copied prefix -/
example : fwdStage exTable 2 [1, 2, 1] 1 = .done ⟨[1], [0], 0, []⟩ := by decide +kernel

/-- an attribute operand with counts: one or two letters become cell 3 -/
def exProg2 : List Nat := [pass_attributes, 0, 0, 0, CTC_Letter, 1, 2, pass_endTest, pass_dots, 1, 3]
def exRule2 : Rule := { idx := 6, opcode := CTO_Pass2, chars := [], dots := exProg2 }
def exTable2 : Table := { numPasses := 2, rules := [exRule2], forPass := [(2, [6])], dots := exDots }
example : fwdStage exTable2 2 [1, 2, 1] 10 = .done ⟨[3, 3], [0, 2], 3, [6, 6]⟩ := by decide +kernel

/-- negation and a pass variable: the first cell that is not 1 becomes 3, once (`!@1 #1=0` → `@3 #1=1`) -/
def exProg3 : List Nat := [pass_not, pass_dots, 1, 1, pass_eq, 1, 0, pass_endTest, pass_dots, 1, 3, pass_eq, 1, 1]
def exRule3 : Rule := { idx := 7, opcode := CTO_Pass2, chars := [], dots := exProg3 }
def exTable3 : Table := { numPasses := 2, rules := [exRule3], forPass := [(2, [7])], backPass := [(2, [7])], dots := exDots }
example : fwdStage exTable3 2 [1, 2, 2, 1] 10 = .done ⟨[1, 3, 2, 1], [0, 1, 2, 3], 4, [7]⟩ := by decide +kernel
example : backStage exTable3 2 [1, 2, 2, 1] 10 = .done ⟨[1, 3, 2, 1], [0, 1, 2, 3], 4, [7]⟩ := by decide +kernel

end Lou.C06Pass
