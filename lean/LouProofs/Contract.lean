/-
  The contracts between the two drivers and the per-pass engines (DESIGN §5.8), and the invariants of the two pass
  loops that follow from them.  C01, C02, C04, C06 and C07 assume nothing else of an engine.  Forward each of E1–E5 is
  a hypothesis of the theorems that need it, is evaluated on every recorded pass of every real run
  (`Lou.Proto.failedFwd`, `nonNeg`), and is proved of the modelled engines in `ModelEngine`.  The backward contract
  stands at the end, in the namespace of C02, whose checks name it there.
-/
import LouProofs.Lemmas.Driver

namespace Lou.Contract
open Lou Lou.Drv

/-- E1–E4 for one forward pass -/
structure PassOKFwd (pin : PassIn) (po : PassOut) : Prop where
  e1 : po.out.length ≤ pin.maxlen
  e2 : po.map.length = po.out.length
  e3 : po.realInlen ≤ pin.chars.length
  e4 : ∀ p ∈ po.map, -1 ≤ p ∧ p ≤ (pin.chars.length : Int)

def EngineOKFwd (e : Engine) : Prop := ∀ ini hist pin, PassOKFwd pin (e ini hist pin)

/-- E5.  Forced by `0 ≤ inlen'` of C04 and by the range and round trip of the scanned map in C07
    (witnesses there) -/
def EngineNonNeg (e : Engine) : Prop := ∀ ini hist pin, ∀ p ∈ (e ini hist pin).map, 0 ≤ p

/-- every cell a pass emits carries the LOU_DOTS flag: what C04(a) asks of dotsIO output.  No theorem uses it
    or proves it of an engine, and `Proto.handleTrace` does not evaluate it -/
def EngineFlagged (e : Engine) : Prop :=
  ∀ ini hist pin, ∀ c ∈ (e ini hist pin).out, c &&& LOU_DOTS = LOU_DOTS

/-- the four clauses in the order `Proto.failedFwd` tests them on recorded passes (that the Bool test decides
    them is not proved) -/
theorem passOKFwd_iff (pin : PassIn) (po : PassOut) :
    (po.out.length ≤ pin.maxlen ∧ po.map.length = po.out.length ∧ po.realInlen ≤ pin.chars.length ∧
      ∀ p ∈ po.map, -1 ≤ p ∧ p ≤ (pin.chars.length : Int)) ↔ PassOKFwd pin po :=
  ⟨fun ⟨a, b, c, d⟩ => ⟨a, b, c, d⟩, fun h => ⟨h.e1, h.e2, h.e3, h.e4⟩⟩

theorem PassOKFwd.mapEnd {pin : PassIn} {po : PassOut} (h : PassOKFwd pin po) {lo : Int} (hlo : lo ≤ 0)
    (hn : ∀ p ∈ po.map, lo ≤ p) :
    ∀ p ∈ po.map ++ [(po.realInlen : Int)], lo ≤ p ∧ p ≤ (pin.chars.length : Int) := by
  have h3 := h.e3
  simp only [List.forall_mem_append, List.forall_mem_singleton]
  exact ⟨fun p hp => ⟨hn p hp, (h.e4 p hp).2⟩, by omega⟩

/-- the invariant of the forward pass loop, from the first pass on.  `N` = length of the cut input, `lo` = the
    lower bound the engine keeps for its map entries (−1 by E4, 0 under E5); `hist` is what the access lists
    of C01 need of the recorded passes -/
structure FwdInv (N cap : Nat) (lo : Int) (s : FwdState) : Prop where
  notFirst : s.first = false
  fits : s.output.length ≤ cap
  len : s.posMapping.length = s.output.length + 1
  rng : ∀ p ∈ s.posMapping, lo ≤ p ∧ p ≤ (N : Int)
  hist : ∀ x ∈ s.hist, PassOKFwd x.1 x.2 ∧ x.1.maxlen = cap ∧ x.1.chars.length ≤ max N cap

theorem getD_mem_or {l : List Int} {i : Nat} {d : Int} (h : i < l.length) : l.getD i d ∈ l := by
  rw [List.getD_eq_getElem?_getD, List.getElem?_eq_getElem h]; exact List.getElem_mem h

theorem mem_composeFwd {prev pm : List Int} (h : ∀ p ∈ pm, p < prev.length) (h0 : 0 < prev.length) :
    ∀ q ∈ composeFwd prev pm, q ∈ prev := by
  intro q hq
  obtain ⟨x, hx, rfl⟩ := List.mem_map.mp hq
  have := h x hx
  split <;> exact getD_mem_or (by omega)

theorem fwdStep_first (e : Engine) (ini : EngInit) (cap : Nat) (s : FwdState) (p : Nat) {lo : Int}
    (he : EngineOKFwd e) (hlo : lo ≤ 0) (hn : ∀ ini hist pin, ∀ q ∈ (e ini hist pin).map, lo ≤ q)
    (hf : s.first = true) (hh : s.hist = []) :
    FwdInv s.input.length cap lo (fwdStep e ini cap s p) := by
  have hk := he ini s.hist { passNo := p, chars := s.input, maxlen := cap, cpos := s.cpos, cstat := s.cstat }
  simp only [fwdStep, hf, if_true]
  refine ⟨rfl, hk.e1, by simp [hk.e2], hk.mapEnd hlo (hn _ _ _), ?_⟩
  simp only [List.forall_mem_append, List.forall_mem_singleton]
  exact ⟨by simp [hh], hk, trivial, Nat.le_max_left ..⟩

theorem fwdStep_later (e : Engine) (ini : EngInit) (N cap : Nat) (lo : Int) (s : FwdState) (p : Nat)
    (he : EngineOKFwd e) (hi : FwdInv N cap lo s) :
    FwdInv N cap lo (fwdStep e ini cap s p) := by
  have hk := he ini s.hist { passNo := p, chars := s.output, maxlen := cap, cpos := s.cpos, cstat := s.cstat }
  have hlen := hi.len
  have hfit := hi.fits
  simp only [fwdStep, hi.notFirst, Bool.false_eq_true, if_false]
  refine ⟨rfl, hk.e1, by simp [composeFwd, hk.e2], fun q hq => hi.rng q (mem_composeFwd ?_ (by omega) q hq), ?_⟩
  · intro x hx
    have := (hk.mapEnd (lo := -1) (by omega) fun q hq => (hk.e4 q hq).1) x hx
    dsimp only at this
    omega
  · simp only [List.forall_mem_append, List.forall_mem_singleton]
    exact ⟨hi.hist, hk, trivial, by omega⟩

theorem fwdRun_inv_lo (t : TableInfo) (e : Engine) (a : Args) (he : EngineOKFwd e) {lo : Int} (hlo : lo ≤ 0)
    (hn : ∀ ini hist pin, ∀ q ∈ (e ini hist pin).map, lo ≤ q) :
    FwdInv (cutAtNul a.inbuf).length a.outlen lo (fwdRun t e a) :=
  fwdRun_induction_first t e a (fun p => fwdStep_first e _ _ (fwdStart a) p he hlo hn rfl rfl)
    (fun s p => fwdStep_later e _ _ _ lo s p he)

theorem fwdRun_inv (t : TableInfo) (e : Engine) (a : Args) (he : EngineOKFwd e) :
    FwdInv (cutAtNul a.inbuf).length a.outlen (-1) (fwdRun t e a) :=
  fwdRun_inv_lo t e a he (by omega) fun ini hist pin q hq => ((he ini hist pin).e4 q hq).1

theorem cutAtNul_length_le (l : List Nat) : (cutAtNul l).length ≤ l.length :=
  (List.takeWhile_sublist _).length_le

theorem cutAtNul_noNul (l : List Nat) (h : ∀ c ∈ l, c ≠ 0) : cutAtNul l = l := by
  unfold cutAtNul
  induction l with
  | nil => rfl
  | cons x l ih =>
    rw [List.takeWhile_cons, if_pos (by simpa using h x List.mem_cons_self), ih fun c hc => h c (List.mem_cons_of_mem _ hc)]

end Lou.Contract

namespace Lou.C02
open Lou Lou.Drv

/-- E1 and E3 for one backward pass: all that the backward driver theorems use -/
structure PassOKBack (pin : PassIn) (po : PassOut) : Prop where
  e1 : po.out.length ≤ pin.maxlen
  e3 : po.realInlen ≤ pin.chars.length

def EngineOKBack (e : Engine) : Prop := ∀ ini hist pin, PassOKBack pin (e ini hist pin)

/-- the loop returns the old `*inlen` or an index `k` that its guard `k ≤ *inlen` has let pass -/
theorem composeBackLoop_inlen (prev pm : List Int) (realInlen inputLen outLen : Nat) :
    ∀ (fuel k : Nat) (acc : List Int) (inlen : Int), 0 ≤ inlen →
      0 ≤ (composeBackLoop prev pm realInlen inputLen outLen fuel k acc inlen).2 ∧
      (composeBackLoop prev pm realInlen inputLen outLen fuel k acc inlen).2 ≤ inlen := by
  intro fuel k acc inlen h
  fun_induction composeBackLoop prev pm realInlen inputLen outLen fuel k acc inlen <;> omega

/-- `k` = length of the cut input -/
structure BackInv (k cap : Nat) (s : BackState) : Prop where
  inlen0 : 0 ≤ s.inlen
  inlenK : s.inlen ≤ k
  fits : s.output.length ≤ cap

theorem backStepOk_inv (k cap : Nat) (s : BackState) (input : List Nat) (pin : PassIn) (po : PassOut)
    (hi : BackInv k cap s) (h1 : po.out.length ≤ cap) (hin : s.first = true → input.length = k) :
    BackInv k cap (backStepOk s input pin po) := by
  have ⟨h0, hK, _⟩ := hi
  unfold backStepOk
  split
  next hf => have := hin hf; exact ⟨by dsimp only; omega, by dsimp only; omega, h1⟩
  next =>
    have hl := composeBackLoop_inlen s.posMapping (List.take po.realInlen po.map ++ [(po.out.length : Int)])
      po.realInlen input.length po.out.length (s.inlen.toNat + 1) 0 [] s.inlen h0
    exact ⟨hl.1, by dsimp only; omega, h1⟩

/-- the invariant, together with what the first pass needs: it reads the whole cut input -/
theorem backStep_inv (e : Engine) (ini : EngInit) (k cap : Nat) (s : BackState) (p : Nat)
    (he : EngineOKBack e) (hi : BackInv k cap s ∧ (s.first = true → s.input.length = k)) :
    BackInv k cap (backStep e ini cap s p) ∧
      ((backStep e ini cap s p).first = true → (backStep e ini cap s p).input.length = k) := by
  refine backStep_elim (P := fun r => BackInv k cap r ∧ (r.first = true → r.input.length = k)) e ini cap s p
    (fun _ => hi) (fun _ => ⟨⟨hi.1.1, hi.1.2, hi.1.3⟩, hi.2⟩) ?_
  rintro - input rfl pin rfl
  refine ⟨backStepOk_inv k cap s _ _ _ hi.1 (he ini s.hist _).e1 fun hf => by rw [if_pos hf]; exact hi.2 hf, fun hf => ?_⟩
  rw [backStepOk_first] at hf
  cases hf

theorem backRun_inv (t : TableInfo) (dotsFor : Nat → Nat) (e : Engine) (a : Args) (he : EngineOKBack e) :
    BackInv (cutAtNul a.inbuf).length a.outlen (backRun t dotsFor e a) :=
  (backRun_induction t dotsFor e a ⟨⟨Int.natCast_nonneg _, Int.le_refl _, Nat.zero_le _⟩,
    fun _ => decodeInput_length ..⟩ fun s p => backStep_inv e _ _ _ s p he).1

end Lou.C02
