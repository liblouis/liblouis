/-
  C06 — passes run in the documented order and compose (driver part: all tables, any engine).

  * `fwd_stage_order`, `fwd_stage_chain`: `_lou_translate` runs `correct` (if the table has corrections), then the
    main pass, then pass 2 … numPasses, each on the previous stage's output
  * `back_stage_order`, `backPassList_eq_rev`: `_lou_backTranslate` runs the same stages in exactly the reverse
    order, as long as no pass fails
  * `fwd_map_compose`: the final position map is the left fold of the per-stage maps under `composeFwd`
    (pointwise composition with the code's treatment of −1)
  The per-stage semantics for literal rules (first matching rule in chain order, brackets) are Layer B
  (`Pass.lean`, `C06Pass.lean`).
-/
import LouProofs.Lemmas.Driver

namespace Lou.C06
open Lou Lou.Drv

/-- pass 0 is `correct`, 1 the main pass, 2 … `numPasses` the stages `pass2` … -/
def docOrderFwd (corrections : Bool) (numPasses : Nat) : List Nat :=
  (if corrections then [0] else []) ++ (List.range' 1 numPasses)

theorem fwdPassList_eq_doc (t : TableInfo) (h : 1 ≤ t.numPasses) :
    fwdPassList t = docOrderFwd t.corrections t.numPasses := by
  unfold fwdPassList docOrderFwd
  cases t.corrections
  · obtain ⟨n, hn⟩ : ∃ n, t.numPasses = n + 1 := ⟨t.numPasses - 1, by omega⟩
    simp [hn, List.range'_succ]
  · simp

theorem backPassList_eq_reverse (t : TableInfo) (h : 1 ≤ t.numPasses) : backPassList t = (fwdPassList t).reverse := by
  -- both are `range' start (numPasses − start + 1)`, written from the front and from the back
  have key : ∀ s N, s ≤ N → N :: (List.range' s (N - s)).reverse = (s :: List.range' (s + 1) (N - s)).reverse := by
    intro s N hs
    rw [← List.range'_succ, List.range'_concat, List.reverse_append]
    simp; omega
  unfold backPassList fwdPassList
  cases t.corrections
  · exact key 1 _ h
  · exact key 0 _ (Nat.zero_le _)

/-- `h4` is MAXPASS = 4 (internal.h; re-checked against the header by Gen/Consts); the proof does not need it -/
theorem backPassList_eq_rev (c : Bool) (n : Nat) (h1 : 1 ≤ n) (h4 : n ≤ 4) :
    backPassList { corrections := c, numPasses := n } = (docOrderFwd c n).reverse := by
  rw [backPassList_eq_reverse _ h1, fwdPassList_eq_doc _ h1]

theorem fwd_stage_order (t : TableInfo) (e : Engine) (a : Args) :
    (fwdRun t e a).hist.map (·.1.passNo) = fwdPassList t :=
  fwdRun_induction_done (P := fun done s => s.hist.map (·.1.passNo) = done) t e a rfl
    fun done s p h => by simp [fwdStep, h]

theorem fwd_stage_order_doc (t : TableInfo) (e : Engine) (a : Args) (h : 1 ≤ t.numPasses) :
    (fwdRun t e a).hist.map (·.1.passNo) = docOrderFwd t.corrections t.numPasses := by
  rw [fwd_stage_order, fwdPassList_eq_doc t h]

/-- chaining: every stage reads what the previous stage produced; the first reads the caller's
    input cut at the first NUL -/
def Chained (first : List Nat) : List (PassIn × PassOut) → Prop
  | [] => True
  | (pin, po) :: rest => pin.chars = first ∧ Chained po.out rest

theorem chained_append (first : List Nat) (h : List (PassIn × PassOut)) (pin : PassIn) (po : PassOut)
    (hc : Chained first h) (hlast : pin.chars = (h.getLast?.map (·.2.out)).getD first) :
    Chained first (h ++ [(pin, po)]) := by
  induction h generalizing first with
  | nil => exact ⟨hlast, trivial⟩
  | cons x xs ih =>
    refine ⟨hc.1, ih x.2.out hc.2 ?_⟩
    rw [hlast, List.getLast?_cons, Option.map_some, Option.getD_some, Option.getD_map]

structure ChainInv (inp : List Nat) (s : FwdState) : Prop where
  chained : Chained inp s.hist
  input : s.first = true → s.input = inp ∧ s.hist = []
  output : s.first = false → s.hist.getLast?.map (·.2.out) = some s.output

theorem fwdStep_chain (e : Engine) (ini : EngInit) (cap : Nat) (inp : List Nat) (s : FwdState) (p : Nat)
    (hi : ChainInv inp s) : ChainInv inp (fwdStep e ini cap s p) := by
  refine ⟨chained_append inp s.hist _ _ hi.chained ?_, nofun, fun _ => by simp [fwdStep]⟩
  cases hf : s.first with
  | true => obtain ⟨h1, h2⟩ := hi.input hf; rw [h2, h1]; rfl
  | false => rw [hi.output hf]; rfl

theorem fwd_stage_chain (t : TableInfo) (e : Engine) (a : Args) :
    Chained (cutAtNul a.inbuf) (fwdRun t e a).hist :=
  (fwdRun_induction t e a ⟨trivial, fun _ => ⟨rfl, rfl⟩, nofun⟩ fun s p h => fwdStep_chain e _ _ _ s p h).chained

theorem back_stage_order (t : TableInfo) (dotsFor : Nat → Nat) (e : Engine) (a : Args)
    (hok : (backRun t dotsFor e a).failed = false) :
    (backRun t dotsFor e a).hist.map (·.1.passNo) = backPassList t := by
  refine backRun_induction_done (P := fun done s => s.failed = false → s.hist.map (·.1.passNo) = done)
    t dotsFor e a (fun _ => rfl) (fun done s p h => ?_) hok
  -- a failure is kept, so a step that ends without one started without one and recorded its pass
  refine backStep_elim (P := fun r => r.failed = false → r.hist.map (·.1.passNo) = done ++ [p]) e _ _ s p
    (fun hf hf' => by rw [hf] at hf'; cases hf') (fun _ => nofun) ?_
  rintro hf input - pin rfl -
  simp [h hf]

/-- the per-stage maps with their end entries, in execution order -/
def stageMaps (hist : List (PassIn × PassOut)) : List (List Int) :=
  hist.map fun x => x.2.map ++ [(x.2.realInlen : Int)]

def composeAll : List (List Int) → List Int
  | [] => []
  | m :: ms => ms.foldl composeFwd m

theorem composeAll_concat {ms : List (List Int)} (h : ms ≠ []) (m : List Int) :
    composeAll (ms ++ [m]) = composeFwd (composeAll ms) m := by
  cases ms with
  | nil => exact absurd rfl h
  | cons _ _ => simp [composeAll, List.foldl_append]

theorem fwd_map_compose (t : TableInfo) (e : Engine) (a : Args) :
    (fwdRun t e a).posMapping = composeAll (stageMaps (fwdRun t e a).hist) := by
  -- from the first pass on `first` is off and something is recorded
  refine (fwdRun_induction_first (P := fun s => s.first = false ∧ s.hist ≠ [] ∧ s.posMapping = composeAll (stageMaps s.hist))
    t e a (fun p => ⟨rfl, by simp [fwdStep], rfl⟩) fun s p ⟨hf, hne, h⟩ => ⟨rfl, by simp [fwdStep], ?_⟩).2.2
  simp only [fwdStep, hf, stageMaps, List.map_append, List.map_cons, List.map_nil]
  rw [composeAll_concat (by simpa using hne), ← stageMaps, ← h]
  simp

/-- non-vacuity: a table with corrections and four passes runs 0,1,2,3,4 forward and 4,3,2,1,0 backward -/
example : fwdPassList { corrections := true, numPasses := 4 } = [0, 1, 2, 3, 4] ∧
          backPassList { corrections := true, numPasses := 4 } = [4, 3, 2, 1, 0] ∧
          fwdPassList { corrections := false, numPasses := 1 } = [1] := by decide +kernel

end Lou.C06
