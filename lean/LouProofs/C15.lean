/-
  C15 — "Rules added at run time behave as if written in the table".

  The property: a rule accepted by lou_compileString for a table list not yet used for translation takes effect exactly
  as if it had been appended to the last file of that list, stays in force until lou_free and affects no other list;
  everything that worked before the addition keeps working however much the table grows.  Once the table has been used
  for translation the call returns 0 and has no effect, and an invalid rule returns 0 without corrupting the table or
  preventing later valid additions.

  On the compile model (fragment F0′, `LouModel/Compile.lean`): a compiled-but-not-finalised table is
  `compileUnfinalised es`; `lou_compileString` is `compileString` (the check "Table is finalized", then the same
  `compileRule`); using the table finalises it.  The file is compiled by a fold, so adding is appending; every step of
  the compiler only adds to the table (`Grows`, Lemmas/Compile).

  NOT covered by a theorem (checked / found by tools/lv/props/C15.py on the real library): rule shapes that the C compiler
  rejects only AFTER a partial effect (multipass opcodes with bad operands leave numPasses / corrections raised; `match`
  with a bad pattern leaves the rule linked, and logs nothing; `base`, `grouping`, `swap*` with a bad later operand leave
  characters / the rule behind; `numericmodechars` & co. with an undefined character leave the attributes of the earlier
  ones; `syllable` with bad operands leaves the flag), rules accepted although an error was logged (unterminated strings
  in multipass operands, `rependword` with bad second cells), and the crash of lou_compileString on a rule starting with
  "UTF-8" / "ISO…" (hyphenation header on a string).  None of these shapes is in the fragment of the model; for them
  `add_invalid_inert` is FALSE of the C code.
-/
import LouProofs.Lemmas.Compile

namespace Lou.C15
open Lou Lou.Gen Lou.Compile

theorem add_eq_append_list (es adds : List Entry) :
    compileUnfinalised (es ++ adds) = (compileUnfinalised es).bind (fun t => adds.foldlM compileEntry t) := by
  unfold compileUnfinalised
  rw [List.foldlM_append]
  rfl

/-- adding one rule to a compiled, unfinalised table = compiling the file with the rule appended -/
theorem add_eq_append (es : List Entry) (e : Entry) :
    compileUnfinalised (es ++ [e]) = (compileUnfinalised es).bind (fun t => compileEntry t e) := by
  rw [add_eq_append_list]
  simp [List.foldlM_cons, List.foldlM_nil]

/-- `lou_compileString` called for each rule in turn: the final table and the return values -/
def addSeq (t : Table) : List Entry → Table × List Bool
  | [] => (t, [])
  | e :: es => ((addSeq (compileString t e).2 es).1, (compileString t e).1 :: (addSeq (compileString t e).2 es).2)

def accepted : List Entry → List Bool → List Entry
  | e :: es, true :: fs => e :: accepted es fs
  | _ :: es, false :: fs => accepted es fs
  | _, _ => []

theorem compileUnfinalised_fin {es : List Entry} {t : Table} (h : compileUnfinalised es = some t) : t.finalized = false :=
  compileUnfinalised_induction (P := fun t => t.finalized = false) h rfl fun _ _ _ _ ih hc =>
    let ⟨_, _, ha, _⟩ := compileEntry_adds hc
    ha.finalized.trans ih

/-- Calling `lou_compileString` for each rule of `adds` in turn on the compiled table of
    `es` (skipping over the rejected ones) ends in exactly the table obtained by compiling the file that
    contains `es` followed by the accepted rules -/
theorem addSeq_eq_file (adds : List Entry) : ∀ (es : List Entry) (t : Table), compileUnfinalised es = some t →
    compileUnfinalised (es ++ accepted adds (addSeq t adds).2) = some (addSeq t adds).1 := by
  induction adds with
  | nil => intro es t h; simpa [addSeq, accepted] using h
  | cons e rest ih =>
    intro es t h
    show compileUnfinalised (es ++ accepted (e :: rest) ((compileString t e).1 :: (addSeq (compileString t e).2 rest).2)) =
      some (addSeq (compileString t e).2 rest).1
    rw [compileString_eq, compileUnfinalised_fin h]
    cases hce : compileEntry t e with
    | none => exact ih es t h
    | some t1 =>
      have := ih (es ++ [e]) t1 (by rw [add_eq_append, h]; exact hce)
      rwa [List.append_assoc] at this

/-- Once the table is finalised (it has been used for translation) `compileString` returns
    0 and the table is unchanged -/
theorem add_finalised (t : Table) (e : Entry) (h : t.finalized = true) : compileString t e = (false, t) := by
  rw [compileString_eq, if_pos h]

theorem add_after_compile (es : List Entry) (t : Table) (e : Entry) (h : compile es = some t) :
    compileString t e = (false, t) := by
  obtain ⟨t0, _, rfl⟩ := compile_some h
  exact add_finalised _ e rfl

/-- A rule the (model) compiler rejects returns 0 and leaves the table unchanged … -/
theorem add_invalid_inert (t : Table) (e : Entry) (h : compileEntry t e = none) : compileString t e = (false, t) := by
  rw [compileString_eq, h]
  exact ite_self _

/-- … and does not prevent or change later additions -/
theorem add_invalid_then (t : Table) (e : Entry) (later : List Entry) (h : compileEntry t e = none) :
    addSeq t (e :: later) = ((addSeq t later).1, false :: (addSeq t later).2) := by
  show ((addSeq (compileString t e).2 later).1, (compileString t e).1 :: (addSeq (compileString t e).2 later).2) = _
  rw [add_invalid_inert t e h]

/-- the entry shapes the model rejects; `dots = []` on a translation rule is the `=` operand, which needs a definition
    of every character -/
theorem compileEntry_none_iff (t : Table) (e : Entry) :
    compileEntry t e = none ↔
      ((defAttr e.opcode).isSome ∧ (e.chars.length ≠ 1 ∨ e.dots = [])) ∨
      ((defAttr e.opcode).isNone ∧ (e.opcode = CTO_NumberSign ∨ e.opcode = CTO_Undefined) ∧ e.dots = []) ∨
      ((defAttr e.opcode).isNone ∧ e.opcode ≠ CTO_NumberSign ∧ e.opcode ≠ CTO_Undefined ∧
        (e.chars = [] ∨ (e.dots = [] ∧ ¬ ∀ c ∈ e.chars, ∃ cr, t.char? c = some cr ∧ (cr.defRule.isSome ∨ cr.base.isSome)))) := by
  have hN : defAttr e.opcode = none → (defAttr e.opcode).isSome ≠ true := fun h h' => by rw [h] at h'; cases h'
  -- at a leaf that rejects, the tests passed on the way are one of the three shapes; at one that accepts they refute all three
  refine compileEntry_elim (P := fun o => o = none ↔ _) t e
    (fun a c hd hc hdots => ⟨nofun, fun hR => False.elim ?_⟩)
    (fun hd h => ⟨fun _ => .inl ⟨Option.isSome_iff_ne_none.mpr hd, h⟩, fun _ => rfl⟩)
    (fun hd h1 hdots => ⟨nofun, fun hR => False.elim ?_⟩) (fun hd h2 hdots => ⟨nofun, fun hR => False.elim ?_⟩)
    (fun hd h hdots => ⟨fun _ => .inr (.inl ⟨Option.isNone_iff_eq_none.mpr hd, h, hdots⟩), fun _ => rfl⟩)
    (fun hd h1 h2 hc hP => ⟨nofun, fun hR => False.elim ?_⟩)
    (fun hd h1 h2 h => ⟨fun _ => .inr (.inr ⟨Option.isNone_iff_eq_none.mpr hd, h1, h2, h⟩), fun _ => rfl⟩)
  · rcases hR with ⟨-, hl | h⟩ | ⟨hn, -⟩ | ⟨hn, -⟩
    · exact hl (by rw [hc]; rfl)
    · exact hdots h
    · rw [hd] at hn; cases hn
    · rw [hd] at hn; cases hn
  · rcases hR with ⟨hs, -⟩ | ⟨-, -, h⟩ | ⟨-, hne, -⟩
    · exact hN hd hs
    · exact hdots h
    · exact hne h1
  · rcases hR with ⟨hs, -⟩ | ⟨-, -, h⟩ | ⟨-, -, hne, -⟩
    · exact hN hd hs
    · exact hdots h
    · exact hne h2
  · rcases hR with ⟨hs, -⟩ | ⟨-, h | h, -⟩ | ⟨-, -, -, h | ⟨hdo, hn⟩⟩
    · exact hN hd hs
    · exact h1 h
    · exact h2 h
    · exact hc h
    · exact hn (hP hdo)

theorem foldl_putDots_same' (l : List Nat) (t : Table) :
    (l.foldl putDots t).rules = t.rules ∧ (l.foldl putDots t).ruleCounter = t.ruleCounter := by
  have h := foldl_putDots_links l t
  exact ⟨h.rules, h.ruleCounter⟩

/-- After a successful addition to a compiled table, every rule index that resolved before still
    resolves to the same rule, and every character, cell and bucket chain is a super-sequence of what it was — nothing
    that was reachable becomes unreachable, however often the image was reallocated (offsets do not exist at this level;
    `Lou.C12.arena_alloc_inv` shows they are preserved by growth).  `h` is not used: a call of `lou_compileString` only
    adds, accepted or not, whatever the table (`compileString_grows`) -/
theorem add_monotone (es : List Entry) (t t' : Table) (e : Entry) (h : compileUnfinalised es = some t)
    (ha : compileString t e = (true, t')) : Grows t t' := by
  have := compileString_grows t e
  rwa [ha] at this

theorem addSeq_grows (adds : List Entry) (t : Table) : Grows t (addSeq t adds).1 := by
  induction adds generalizing t with
  | nil => exact .refl t
  | cons e rest ih => exact (compileString_grows t e).trans (ih _)

/-- … and for any sequence of run-time additions, accepted or rejected (`es` and the hypothesis are not used either:
    `addSeq_grows`) -/
theorem add_monotone_seq (adds : List Entry) : ∀ (es : List Entry) (t : Table), compileUnfinalised es = some t →
    Grows t (addSeq t adds).1 :=
  fun _ t _ => addSeq_grows adds t

theorem add_keeps_bucket_member (t t' : Table) (hg : Grows t t') (hk : (t'.forB.map (·.1)).Nodup)
    (b : Nat × List Nat) (hb : b ∈ t.forB) (i : Nat) (hi : i ∈ b.2) : i ∈ t'.forBucket b.1 := by
  obtain ⟨b', hb', hkey, hsub⟩ := hg.forB b hb
  rw [← hkey, Table.forBucket_of_mem hb' fun _ hx hkx => Table.nodup_map_inj hk hx hb' hkx]
  exact hsub.subset hi

def exBase : List Entry := [
  { opcode := CTO_LowerCase, chars := [97], dots := [0x8001] },
  { opcode := CTO_LowerCase, chars := [98], dots := [0x8003] },
  { opcode := CTO_Always, chars := [97, 98], dots := [0x8005] }]

def exAdds : List Entry := [
  { opcode := CTO_BegWord, chars := [97, 98], dots := [0x8006] },
  { opcode := CTO_Letter, chars := [97, 98], dots := [0x8007] },          -- rejected: two characters
  { opcode := CTO_Always, chars := [99], dots := [] },                      -- rejected: `=` over an undefined character
  { opcode := CTO_Always, chars := [97, 98, 97], dots := [0x8007] }]

example : ∃ t, compileUnfinalised exBase = some t ∧ (addSeq t exAdds).2 = [true, false, false, true] ∧
    (compileUnfinalised (exBase ++ [exAdds[0]!, exAdds[3]!])).map (·.rules) = some (addSeq t exAdds).1.rules ∧
    (compileUnfinalised (exBase ++ [exAdds[0]!, exAdds[3]!])).map (·.chars) = some (addSeq t exAdds).1.chars ∧
    (compileUnfinalised (exBase ++ [exAdds[0]!, exAdds[3]!])).map (·.forB) = some (addSeq t exAdds).1.forB ∧
    (addSeq t exAdds).1.forBucket (rawHash 97 98) = [5, 4, 3] := by
  decide +kernel

example : ∃ t, compile exBase = some t ∧ (addSeq t exAdds).2 = [false, false, false, false] ∧
    (addSeq t exAdds).1.rules = t.rules ∧ (addSeq t exAdds).1.forB = t.forB := by
  decide +kernel

end Lou.C15
