/-
  C10 — optional output arguments do not perturb the translation (driver part).  What must not change is
  `core` = (ret, inlen', outlen', outbuf).

  * `optargs_arrays`: presence of outputPos / inputPos never reaches the engines — any engine
  * `optargs_typeform`: typeform NULL ≡ all-zero typeform — any engine
  * `optargs_spacing`: spacing NULL ≡ spacing supplied, for engines whose results do not depend on the spacing
    array (E7, `SpacingBlind`)
  * `optargs_cursor`: cursorPos NULL ≡ cursorPos supplied, for engines whose emitted cells, map and consumed
    length do not depend on the cursor fields (E6, `CursorBlind`, which quantifies over every mode; of the real
    engines E6 is claimed, and the traces compared, only in modes without compbrl bits)
  * `wrapper_string`: lou_translateString (lou_translate with outputPos, inputPos and cursorPos NULL) returns the
    `core` of lou_translate on the same arguments — for `CursorBlind` engines
  * backward (`C10Back`, at the end): the position arrays, typeform and spacing do not enter the pass loop at all;
    the cursor enters it only through the engine
  E6/E7 are theorems for the modelled engines (`CurBlind`, `CurBlindC`, `CurBlindB`) and are checked on every
  shipped table by cross-pattern equality of the H4 traces (tools/lv/props/C10.py).
-/
import LouProofs.Lemmas.Driver

namespace Lou.C10
open Lou Lou.Drv

def core (r : Result) : Nat × Int × Int × List Nat := (r.ret, r.inlen, r.outlen, r.outbuf)

theorem core_fwd_congr (tbl : Option TableInfo) (disp : Nat → Nat) (e : Engine) {a b : Args}
    (hm : a.mode = b.mode) (hin : a.inbuf = b.inbuf) (hout : a.outlen = b.outlen)
    (hrun : ∀ t, (fwdRun t e a).output = (fwdRun t e b).output ∧ (fwdRun t e a).posMapping = (fwdRun t e b).posMapping) :
    core (fwd tbl disp e a) = core (fwd tbl disp e b) := by
  cases tbl with
  | none => simp [core, failResult, hin, hout]
  | some t =>
    obtain ⟨ho, hp⟩ := hrun t
    rw [fwd_some, fwd_some]
    rcases fwdFinish_cases disp a (fwdRun t e a) with ⟨hn, h⟩ | ⟨f, hf, h⟩
    · rw [h, fwdFinish_of_none (hm ▸ ho ▸ hn)]; simp [core, failResult, hin, hout]
    · rw [h, fwdFinish_of_some (hm ▸ ho ▸ hf)]; simp [core, fwdOk, ho, hp]

theorem core_fwd_of_run_eq (tbl : Option TableInfo) (disp : Nat → Nat) (e : Engine) {a b : Args}
    (hm : a.mode = b.mode) (hin : a.inbuf = b.inbuf) (hout : a.outlen = b.outlen)
    (hrun : ∀ t, fwdRun t e a = fwdRun t e b) : core (fwd tbl disp e a) = core (fwd tbl disp e b) :=
  core_fwd_congr tbl disp e hm hin hout fun t => by rw [hrun t]; exact ⟨rfl, rfl⟩

theorem optargs_arrays (tbl : Option TableInfo) (disp : Nat → Nat) (e : Engine) (a : Args) (x y : Bool) :
    core (fwd tbl disp e { a with wantOutputPos := x, wantInputPos := y }) = core (fwd tbl disp e a) :=
  core_fwd_of_run_eq tbl disp e rfl rfl rfl fun t => fwdRun_congr t e rfl rfl rfl fun _ _ => rfl

theorem initFwd_typeform_zero (a : Args) (input : List Nat) (n : Nat) :
    initFwd { a with typeform := some (List.replicate n 0) } input = initFwd { a with typeform := none } input := by
  have : ∀ k, (List.replicate n 0).getD k 0 = 0 := fun k => by
    rw [List.getD_eq_getElem?_getD, List.getElem?_replicate]; split <;> rfl
  simp only [initFwd, this, List.map_const', List.length_range]

/-- `hn` (the array covers the input, as the API asks) is not needed: `initFwd` reads a short typeform as padded
    with 0 -/
theorem optargs_typeform (tbl : Option TableInfo) (disp : Nat → Nat) (e : Engine) (a : Args) (n : Nat)
    (hn : a.inbuf.length ≤ n) :
    core (fwd tbl disp e { a with typeform := some (List.replicate n 0) }) =
    core (fwd tbl disp e { a with typeform := none }) :=
  core_fwd_of_run_eq tbl disp e rfl rfl rfl fun t => fwdRun_congr t e rfl rfl rfl fun _ _ => by
    rw [initFwd_typeform_zero]

def SpacingBlind (e : Engine) : Prop :=
  ∀ (i : EngInit) (sp : Option (List Nat)) hist pin, e { i with srcSpacing := sp } hist pin = e i hist pin

theorem optargs_spacing (tbl : Option TableInfo) (disp : Nat → Nat) (e : Engine) (a : Args)
    (hb : SpacingBlind e) (sp : Option (List Nat)) :
    core (fwd tbl disp e { a with spacing := sp }) = core (fwd tbl disp e { a with spacing := none }) :=
  core_fwd_of_run_eq tbl disp e rfl rfl rfl fun t => fwdRun_congr t e rfl rfl rfl fun hist pin =>
    -- the two `initFwd` differ in `srcSpacing` only
    hb (initFwd { a with spacing := none } (cutAtNul a.inbuf))
      (initFwd { a with spacing := sp } (cutAtNul a.inbuf)).srcSpacing hist pin

/-- `er…` erases the cursor fields, the only part of a pass's input, result or history that E6 lets vary -/
def erIn (p : PassIn) : PassIn := { p with cpos := 0, cstat := 0 }
def erOut (p : PassOut) : PassOut := { p with cpos := 0, cstat := 0 }
def erHist (h : List (PassIn × PassOut)) : List (PassIn × PassOut) := h.map fun x => (erIn x.1, erOut x.2)

/-- E6: what a pass emits, maps and consumes depends on the cursor fields neither of its input nor of earlier passes -/
def CursorBlind (e : Engine) : Prop :=
  ∀ ini h1 h2 p1 p2, erHist h1 = erHist h2 → erIn p1 = erIn p2 → erOut (e ini h1 p1) = erOut (e ini h2 p2)

theorem cursorBlind_of_passIn {e : Engine}
    (h : ∀ ini h1 h2 n ch m c1 s1 c2 s2, erOut (e ini h1 ⟨n, ch, m, c1, s1⟩) = erOut (e ini h2 ⟨n, ch, m, c2, s2⟩)) :
    CursorBlind e := by
  intro ini h1 h2 ⟨n, ch, m, c1, s1⟩ ⟨_, _, _, c2, s2⟩ _ hp
  simp only [erIn, PassIn.mk.injEq] at hp
  obtain ⟨rfl, rfl, rfl, -, -⟩ := hp
  exact h ..

theorem erOut_eq {x y : PassOut} (h : erOut x = erOut y) :
    x.out = y.out ∧ x.map = y.map ∧ x.realInlen = y.realInlen ∧ x.ok = y.ok := by
  simp only [erOut, PassOut.mk.injEq] at h
  exact ⟨h.1, h.2.1, h.2.2.1, h.2.2.2.2.2⟩

theorem erHist_concat {h h' : List (PassIn × PassOut)} {pin pin' : PassIn} {po po' : PassOut}
    (hh : erHist h = erHist h') (hpin : erIn pin = erIn pin') (hpo : erOut po = erOut po') :
    erHist (h ++ [(pin, po)]) = erHist (h' ++ [(pin', po')]) := by
  simp only [erHist, List.map_append, List.map_cons, List.map_nil] at hh ⊢
  rw [hh, hpin, hpo]

structure CurEq (s s' : FwdState) : Prop where
  input : s.input = s'.input
  pm : s.posMapping = s'.posMapping
  output : s.output = s'.output
  first : s.first = s'.first
  hist : erHist s.hist = erHist s'.hist

theorem fwdStep_curEq (e : Engine) (ini : EngInit) (cap : Nat) (s s' : FwdState) (p : Nat)
    (hb : CursorBlind e) (h : CurEq s s') : CurEq (fwdStep e ini cap s p) (fwdStep e ini cap s' p) := by
  have hin : (if s.first = true then s.input else s.output) = (if s'.first = true then s'.input else s'.output) := by
    rw [h.first, h.input, h.output]
  have hpin : erIn { passNo := p, chars := if s.first = true then s.input else s.output, maxlen := cap, cpos := s.cpos, cstat := s.cstat } =
      erIn { passNo := p, chars := if s'.first = true then s'.input else s'.output, maxlen := cap, cpos := s'.cpos, cstat := s'.cstat } := by
    simp [erIn, hin]
  have hk := hb ini s.hist s'.hist _ _ h.hist hpin
  obtain ⟨ho, hm, hr, -⟩ := erOut_eq hk
  exact ⟨hin, by dsimp only [fwdStep]; rw [hm, hr, h.pm, h.first], ho, rfl, erHist_concat h.hist hpin hk⟩

theorem optargs_cursor (tbl : Option TableInfo) (disp : Nat → Nat) (e : Engine) (a : Args)
    (hb : CursorBlind e) (c : Option Int) :
    core (fwd tbl disp e { a with cursor := c }) = core (fwd tbl disp e { a with cursor := none }) :=
  core_fwd_congr tbl disp e rfl rfl rfl fun t =>
    have := fwdRun_rel (R := CurEq) t e e { a with cursor := c } { a with cursor := none } ⟨rfl, rfl, rfl, rfl, rfl⟩
      fun s s' p h => fwdStep_curEq e _ _ s s' p hb h
    ⟨this.output, this.pm⟩

/-- `lou_translateString`: `lou_translate` with the three position arguments NULL -/
def translateString (tbl : Option TableInfo) (disp : Nat → Nat) (e : Engine) (a : Args) : Result :=
  fwd tbl disp e { a with wantOutputPos := false, wantInputPos := false, cursor := none }

theorem wrapper_string (tbl : Option TableInfo) (disp : Nat → Nat) (e : Engine) (a : Args)
    (hb : CursorBlind e) :
    core (translateString tbl disp e a) = core (fwd tbl disp e a) :=
  (optargs_arrays tbl disp e { a with cursor := none } false false).trans (optargs_cursor tbl disp e a hb a.cursor).symm

/-- non-vacuity: the identity engine is cursor- and spacing-blind -/
def idEngine : Engine := fun _ _ pin =>
  { out := pin.chars.take pin.maxlen,
    map := (List.range (pin.chars.take pin.maxlen).length).map (fun (i : Nat) => (i : Int)),
    realInlen := (pin.chars.take pin.maxlen).length, cpos := pin.cpos, cstat := pin.cstat }

theorem idEngine_blind : CursorBlind idEngine ∧ SpacingBlind idEngine := by
  constructor
  · intro ini h1 h2 p1 p2 _ hp
    simp only [erIn, PassIn.mk.injEq] at hp
    simp [idEngine, erOut, hp.2.1, hp.2.2.1]
  · intro i sp hist pin; rfl

end Lou.C10

namespace Lou.C10Back
open Lou Lou.Drv Lou.C10

theorem core_backFinish (a : Args) (s : BackState) :
    core (backFinish a s) =
      if s.failed then (0, (a.inbuf.length : Int), (a.outlen : Int), []) else (1, s.inlen, (s.output.length : Int), s.output) := by
  rcases backFinish_cases a s with ⟨h, e⟩ | ⟨h, e⟩ <;> rw [e, h] <;> rfl

theorem core_back_congr (tbl : Option TableInfo) (d : Nat → Nat) (e : Engine) {a b : Args}
    (hin : a.inbuf = b.inbuf) (hout : a.outlen = b.outlen)
    (hrun : ∀ t, (backRun t d e a).failed = (backRun t d e b).failed ∧
      (backRun t d e a).output = (backRun t d e b).output ∧ (backRun t d e a).inlen = (backRun t d e b).inlen) :
    core (back tbl d e a) = core (back tbl d e b) := by
  cases tbl with
  | none => simp [core, failResult, hin, hout]
  | some t =>
    obtain ⟨hf, ho, hi⟩ := hrun t
    rw [back_some, back_some, core_backFinish, core_backFinish, hin, hout, hf, ho, hi]

/-- passing NULL for typeform, spacing, outputPos or inputPos does not change the return value,
    the consumed and produced lengths or the output text of back-translation — for every engine -/
theorem back_optargs_arrays (tbl : Option TableInfo) (d : Nat → Nat) (e : Engine) (a : Args) (x y : Bool) (tf sp : Option (List Nat)) :
    core (back tbl d e { a with wantOutputPos := x, wantInputPos := y, typeform := tf, spacing := sp }) = core (back tbl d e a) :=
  core_back_congr tbl d e rfl rfl fun t => by
    rw [backRun_congr t e (a' := a) rfl rfl rfl fun _ _ => rfl]; exact ⟨rfl, rfl, rfl⟩

structure CurEqB (s s' : BackState) : Prop where
  input : s.input = s'.input
  pm : s.posMapping = s'.posMapping
  output : s.output = s'.output
  inlen : s.inlen = s'.inlen
  first : s.first = s'.first
  failed : s.failed = s'.failed
  hist : erHist s.hist = erHist s'.hist

theorem backStepOk_curEq (s s' : BackState) (input : List Nat) (pin pin' : PassIn) (po po' : PassOut)
    (h : CurEqB s s') (hpin : erIn pin = erIn pin') (hpo : erOut po = erOut po') :
    CurEqB (backStepOk s input pin po) (backStepOk s' input pin' po') := by
  obtain ⟨ho, hm, hr, -⟩ := erOut_eq hpo
  -- the two computed fields read `s` in `first`, `posMapping`, `inlen` and `po` in `out`, `map`, `realInlen` only
  have hc : (backStepOk s input pin po).posMapping = (backStepOk s' input pin' po').posMapping ∧
      (backStepOk s input pin po).inlen = (backStepOk s' input pin' po').inlen := by
    unfold backStepOk
    rw [h.first, h.pm, h.inlen, hm, hr, ho]
    split <;> exact ⟨rfl, rfl⟩
  exact ⟨by simp, hc.1, by simp [ho], hc.2, by simp, by simp, by simpa using erHist_concat h.hist hpin hpo⟩

theorem backStep_curEq (e : Engine) (ini : EngInit) (cap : Nat) (s s' : BackState) (p : Nat)
    (hb : CursorBlind e) (h : CurEqB s s') : CurEqB (backStep e ini cap s p) (backStep e ini cap s' p) := by
  unfold backStep
  rw [h.failed]
  split
  · exact h
  have hin : (if s.first = true then s.input else s.output) = (if s'.first = true then s'.input else s'.output) := by
    rw [h.first, h.input, h.output]
  rw [hin]
  generalize (if s'.first = true then s'.input else s'.output) = inp
  have hpin : erIn { passNo := p, chars := inp, maxlen := cap, cpos := s.cpos, cstat := s.cstat } =
              erIn { passNo := p, chars := inp, maxlen := cap, cpos := s'.cpos, cstat := s'.cstat } := by simp [erIn]
  have hk := hb ini s.hist s'.hist _ _ h.hist hpin
  dsimp only
  rw [(erOut_eq hk).2.2.2]
  split
  · exact ⟨h.input, h.pm, h.output, h.inlen, h.first, rfl, h.hist⟩
  · exact backStepOk_curEq s s' inp _ _ _ _ h hpin hk

theorem back_optargs_cursor (tbl : Option TableInfo) (d : Nat → Nat) (e : Engine) (a : Args)
    (hb : CursorBlind e) (c : Option Int) :
    core (back tbl d e { a with cursor := c }) = core (back tbl d e { a with cursor := none }) :=
  core_back_congr tbl d e rfl rfl fun t =>
    have := backRun_rel (R := CurEqB) t d d e e { a with cursor := c } { a with cursor := none }
      ⟨rfl, rfl, rfl, rfl, rfl, rfl, rfl⟩ fun s s' p h => backStep_curEq e _ _ s s' p hb h
    ⟨this.failed, this.output, this.inlen⟩

end Lou.C10Back
