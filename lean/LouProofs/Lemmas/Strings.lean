/-
  Finite facts about string literals, put so that the kernel checks them cheaply.

  The kernel knows a literal only as `String.ofList [chars]`.  Whatever looks inside it (`=`, `==`, `toList`,
  `toLower`) first UTF-8-encodes the characters; `toList` and `toLower` then decode the bytes again by well-founded
  recursion, which costs several times the encoding; and the `Decidable` instance of `List.Nodup` is slow on every
  pair.  So: compare numbers computed from the bytes, once per string, by a `Bool` test.
-/
namespace Lou.Strings

def distinctNat : List Nat → Bool
  | [] => true
  | a :: l => l.all (fun b => !Nat.beq a b) && distinctNat l

theorem nodup_of_keys {α : Type} (f : α → Nat) : ∀ {l : List α}, distinctNat (l.map f) = true → l.Nodup
  | [], _ => .nil
  | a :: l, h => by
    simp only [List.map_cons, distinctNat, Bool.and_eq_true, List.all_eq_true] at h
    refine List.nodup_cons.mpr ⟨fun ha => ?_, nodup_of_keys f h.2⟩
    simpa using h.1 (f a) (List.mem_map_of_mem ha)

theorem utf8EncodeChar_ascii (c : Char) (h : ∀ b ∈ String.utf8EncodeChar c, b < 128) :
    String.utf8EncodeChar c = [UInt8.ofNat c.toNat] ∧ c.toNat < 128 := by
  have lt : ∀ n, UInt8.ofNat n < 128 → n % 256 < 128 := fun n hn => by
    rwa [UInt8.lt_iff_toNat_lt, UInt8.toNat_ofNat'] at hn
  unfold String.utf8EncodeChar at h ⊢
  by_cases h1 : c.val.toNat ≤ 0x7f
  · rw [if_pos h1]; exact ⟨rfl, Nat.lt_succ_of_le h1⟩
  · -- the first byte of a longer encoding is at least 0xc0
    exfalso
    rw [if_neg h1] at h
    by_cases h2 : c.val.toNat ≤ 0x7ff
    · have := lt _ (h _ (by rw [if_pos h2]; exact List.mem_cons_self ..)); omega
    · rw [if_neg h2] at h
      by_cases h3 : c.val.toNat ≤ 0xffff
      · have := lt _ (h _ (by rw [if_pos h3]; exact List.mem_cons_self ..)); omega
      · have := lt _ (h _ (by rw [if_neg h3]; exact List.mem_cons_self ..)); omega

theorem toList_of_ascii (s : String) (h : ∀ b ∈ s.toByteArray.data.toList, b < 128) :
    s.toList = s.toByteArray.data.toList.map fun b => Char.ofNat b.toNat := by
  rw [← String.utf8Encode_toList] at h ⊢
  generalize s.toList = l at *
  simp only [List.utf8Encode, List.data_toByteArray] at h ⊢
  induction l with
  | nil => rfl
  | cons c l ih =>
    simp only [List.flatMap_cons, List.mem_append] at h ⊢
    obtain ⟨hc, hlt⟩ := utf8EncodeChar_ascii c fun b hb => h b (Or.inl hb)
    rw [hc, List.cons_append, List.nil_append, List.map_cons, ← ih fun b hb => h b (Or.inr hb),
      UInt8.toNat_ofNat', Nat.mod_eq_of_lt (by omega), Char.ofNat_toNat]

/-- The key of a string is the number whose digits in base 256 are its lower-cased bytes.  One `Bool` for both
    conditions, so that evaluating it encodes each string once. -/
theorem nodup_toLower {l : List String}
    (h : (l.all (fun s => s.toByteArray.data.toList.all (· < 128)) &&
      distinctNat (l.map fun s =>
        s.toByteArray.data.toList.foldl (fun n b => 256 * n + (Char.ofNat b.toNat).toLower.toNat) 0)) = true) :
    (l.map String.toLower).Nodup := by
  simp only [Bool.and_eq_true, List.all_eq_true, decide_eq_true_eq] at h
  apply nodup_of_keys fun s => s.toList.foldl (fun n c => 256 * n + c.toNat) 0
  simp only [List.map_map, Function.comp_def, String.toLower, String.toList_map]
  rw [List.map_congr_left fun s hs => by rw [toList_of_ascii s (h.1 s hs), List.map_map, List.foldl_map]]
  exact h.2

end Lou.Strings
