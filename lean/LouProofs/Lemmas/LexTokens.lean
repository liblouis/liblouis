/-
  The token-level functions of LouModel/Lexer.lean: parseChars (one iteration per kind of character,
  output bound, fuel), parseDots (its effect on one cell, permutation, closed form of a cell, number of cells).
-/
import LouModel.Lexer

namespace Lou.Lexer

/-- UTF-8 of a 16-bit code point (1 to 3 bytes; surrogates are encoded like any other value, as the
    decoder of parseChars does not treat them specially) -/
def utf8 (cp : Nat) : List Nat :=
  if cp < 0x80 then [cp]
  else if cp < 0x800 then [0xC0 + cp / 64, 0x80 + cp % 64]
  else [0xE0 + cp / 4096, 0x80 + cp / 64 % 64, 0x80 + cp % 64]

/-- `max`: nothing is assumed of the `out` the loop is entered with -/
theorem contLoop_inv {rest : List Nat} {restPos k : Nat} {cur : List Nat} {curPos u : Nat} {out : List Nat} {w : Nat}
    {r : Cont} (hc : cur.length ≤ rest.length) :
    contLoop rest restPos k cur curPos u out w = r →
    match r with
    | .tooLong out' _ => out.length ≤ out'.length ∧ out'.length ≤ max out.length (MAXSTRING - 1)
    | .done cur' _ _ out' _ =>
      out.length ≤ out'.length ∧ out'.length ≤ max out.length (MAXSTRING - 1) ∧ cur'.length ≤ rest.length := by
  intro h
  subst h
  fun_induction contLoop rest restPos k cur curPos u out w with
  | case1 | case2 | case3 => exact ⟨Nat.le_refl _, Nat.le_max_left .., hc⟩
  | case4 => exact ⟨Nat.le_refl _, Nat.le_max_left ..⟩
  | case5 =>
    rename_i ih
    have := ih (by simp)
    split at this <;> simp at this ⊢ <;> omega
  | case6 => rename_i ih; exact ih (by simp at hc; omega)

theorem le_foldl_horner (ds : List Nat) (u : Nat) : u ≤ ds.foldl (fun u d => u * 64 + d) u := by
  induction ds generalizing u with
  | nil => exact Nat.le_refl _
  | cons d ds ih => exact Nat.le_trans (show u ≤ u * 64 + d by omega) (ih _)

theorem contLoop_run {rest : List Nat} {restPos : Nat} {tl out : List Nat} {w : Nat} (ho : out.length < MAXSTRING - 1)
    {ds : List Nat} {curPos u : Nat} (hd : ∀ d ∈ ds, d < 64) (hp : curPos + ds.length ≤ MAXSTRING - 1)
    (hv : ds.foldl (fun u d => u * 64 + d) u < 4294967296) :
    contLoop rest restPos ds.length (ds.map (0x80 + ·) ++ tl) curPos u out w =
      .done tl (curPos + ds.length) (ds.foldl (fun u d => u * 64 + d) u) out w := by
  induction ds generalizing curPos u with
  | nil => rfl
  | cons d ds ih =>
    have hd0 := hd d (by simp)
    have h64 : (128 + d) % 64 = d := by omega
    simp only [List.length_cons] at hp
    simp only [List.map_cons, List.cons_append, List.length_cons, contLoop]
    -- no wrap-around at 32 bits: the partial value is at most the final one
    rw [if_neg (by omega), if_neg (by omega), if_neg (by omega), h64,
      Nat.mod_eq_of_lt (Nat.lt_of_le_of_lt (le_foldl_horner ds _) hv),
      ih (fun x hx => hd x (by simp [hx])) (by omega) hv, Nat.add_right_comm]
    rfl

theorem parseCharsLoop_nil {term f pos out lo e w} :
    parseCharsLoop term (f + 1) [] pos out lo e w = ⟨true, out, out.length, e, w⟩ := by
  rw [parseCharsLoop]

theorem parseCharsLoop_ascii {term f c0 rest pos out lo e w} (h1 : c0 < 128) (h2 : c0 ≠ 92)
    (h3 : out.length < MAXSTRING - 1) :
    parseCharsLoop term (f + 1) (c0 :: rest) pos out lo e w =
      parseCharsLoop term f rest (pos + 1) (out ++ [c0]) lo e w := by
  have hc : c0 % 256 = c0 := by omega
  rw [parseCharsLoop]
  simp only [hc]
  rw [if_pos h1, if_neg h2, if_neg (by omega)]

theorem parseCharsLoop_escape {term f rest pos out lo e w} {v skip e' w' : Nat}
    (he : escape rest term = .val v skip e' w') (h3 : out.length < MAXSTRING - 1) :
    parseCharsLoop term (f + 1) (92 :: rest) pos out lo e w =
      parseCharsLoop term f (rest.drop skip) (pos + 1 + skip) (out ++ [v]) lo (e + e') (w + w') := by
  rw [parseCharsLoop]
  simp only [he]
  rw [if_pos (by decide), if_pos (by decide), if_neg (by omega)]

theorem parseCharsLoop_multi {term f c0 pos out lo e w} (ds tl : List Nat) (v : Nat) (h1 : 128 ≤ c0) (h2 : c0 < 256)
    (hn : numBytes c0 = ds.length) (hd : ∀ d ∈ ds, d < 64) (hp : pos + 1 + ds.length ≤ MAXSTRING - 1)
    (h3 : out.length < MAXSTRING - 1)
    (hv : ds.foldl (fun u d => u * 64 + d) (c0 % 2 ^ (7 - ds.length)) = v) (hu : v ≤ 0xffff) :
    parseCharsLoop term (f + 1) (c0 :: (ds.map (0x80 + ·) ++ tl)) pos out lo e w =
      parseCharsLoop term f tl (pos + 1 + ds.length) (out ++ [v]) out.length e w := by
  have hc : c0 % 256 = c0 := by omega
  rw [parseCharsLoop]
  simp only [hc, hn]
  rw [if_neg (by omega), contLoop_run h3 hd hp (by omega), hv]
  simp only
  rw [if_neg (by omega), if_neg (by omega)]

theorem numBytes_C0 {c : Nat} (h1 : 0xC0 ≤ c) (h2 : c < 0xE0) : numBytes c = 1 := by
  unfold numBytes
  rw [if_neg (by omega), if_neg (by omega), if_neg (by omega), if_neg (by omega), if_neg (by omega), if_pos h1]

theorem numBytes_E0 {c : Nat} (h1 : 0xE0 ≤ c) (h2 : c < 0xF0) : numBytes c = 2 := by
  unfold numBytes
  rw [if_neg (by omega), if_neg (by omega), if_neg (by omega), if_neg (by omega), if_pos h1]

theorem parseChars_utf8 (cp : Nat) (h : cp < 65536) (h92 : cp ≠ 92) : parseChars (utf8 cp) = ⟨true, [cp], 1, 0, 0⟩ := by
  unfold parseChars utf8
  split
  · exact (parseCharsLoop_ascii (by omega) h92 (by decide)).trans parseCharsLoop_nil
  · split
    · exact (parseCharsLoop_multi [cp % 64] [] cp (by omega) (by omega) (numBytes_C0 (by omega) (by omega))
        (by simp; omega) (by simp [MAXSTRING]) (by decide) (by simp; omega) (by omega)).trans parseCharsLoop_nil
    · exact (parseCharsLoop_multi [cp / 64 % 64, cp % 64] [] cp (by omega) (by omega)
        (numBytes_E0 (by omega) (by omega)) (by simp; omega) (by simp [MAXSTRING]) (by decide) (by simp; omega)
        (by omega)).trans parseCharsLoop_nil

theorem parseCharsLoop_bound (term f : Nat) (tok : List Nat) (pos : Nat) (out : List Nat) (lo e w : Nat)
    (h1 : out.length ≤ MAXSTRING - 1) (h2 : lo ≤ out.length) :
    (parseCharsLoop term f tok pos out lo e w).chars.length ≤ MAXSTRING - 1 ∧
    (parseCharsLoop term f tok pos out lo e w).length ≤ (parseCharsLoop term f tok pos out lo e w).chars.length := by
  fun_induction parseCharsLoop term f tok pos out lo e w with
  | case1 | case3 => exact ⟨h1, h2⟩
  | case2 => exact ⟨h1, Nat.le_refl _⟩
  | case4 | case6 => exact ⟨h1, by assumption⟩
  | case5 | case7 => rename_i ih; exact ih (by simp; omega) (by simp; omega)
  | case8 =>
    rename_i hc
    have := contLoop_inv (Nat.le_refl _) hc
    exact ⟨Nat.le_trans this.2 (Nat.max_le.mpr ⟨h1, Nat.le_refl _⟩), this.1⟩
  | case9 | case10 =>
    have := contLoop_inv (Nat.le_refl _) ‹contLoop _ _ _ _ _ _ _ _ = _›
    exact ⟨Nat.le_trans this.2.1 (Nat.max_le.mpr ⟨h1, Nat.le_refl _⟩), this.1⟩
  | case11 =>
    rename_i hc _ _ ih
    have := contLoop_inv (Nat.le_refl _) hc
    exact ih (by simp; omega) (by simp; omega)

theorem parseChars_bound (tok : List Nat) (term : Nat) :
    (parseChars tok term).chars.length ≤ MAXSTRING - 1 ∧ (parseChars tok term).length ≤ (parseChars tok term).chars.length :=
  parseCharsLoop_bound term _ tok 0 [] 0 0 0 (by simp) (by simp)

/-- every iteration continues on a shorter token -/
theorem parseCharsLoop_fuel (term f : Nat) (tok : List Nat) (pos : Nat) (out : List Nat) (lo e w : Nat)
    (h : tok.length < f) :
    parseCharsLoop term (f + 1) tok pos out lo e w = parseCharsLoop term f tok pos out lo e w := by
  fun_induction parseCharsLoop term f tok pos out lo e w with
  | case1 => omega
  | case2 => rfl
  | case3 | case4 | case6 | case8 | case9 | case10 => rw [parseCharsLoop]; simp +zetaDelta [*]
  | case5 | case7 =>
    rename_i ih
    rw [parseCharsLoop]; simp +zetaDelta [*]
    exact ih (by simp at h ⊢; omega)
  | case11 =>
    rename_i hc _ _ ih
    have := contLoop_inv (Nat.le_refl _) hc
    rw [parseCharsLoop]; simp +zetaDelta [*]
    exact ih (by simp at h; omega)

/-- the fuel of `parseChars` is never exhausted: more fuel gives the same result -/
theorem parseChars_fuel (tok : List Nat) (term k : Nat) :
    parseCharsLoop term (tok.length + 1 + k) tok 0 [] 0 0 0 = parseChars tok term := by
  induction k with
  | zero => rfl
  | succ k ih => rw [← ih, ← Nat.add_assoc]; exact parseCharsLoop_fuel term _ tok 0 [] 0 0 0 (by omega)

theorem bind_ok {ε α β : Type} {x : Except ε α} {g : α → Except ε β} {b : β} (h : x >>= g = .ok b) :
    ∃ a, x = .ok a ∧ g a = .ok b := by
  cases x with
  | error e => cases h
  | ok a => exact ⟨a, rfl, h⟩

theorem dotBit_ne_zero {c d : Nat} (h : dotBit? c = some d) : d ≠ 0 := by
  have pow : ∀ k, some (2 ^ k) = some d → d ≠ 0 := fun k e => Option.some.inj e ▸ Nat.ne_of_gt (Nat.two_pow_pos k)
  unfold dotBit? at h
  split at h
  · exact pow _ h
  split at h
  · exact pow _ h
  split at h
  · exact pow _ h
  · cases h

theorem dotBit_45 : dotBit? 45 = none := by decide +kernel
theorem dotBit_48 : dotBit? 48 = none := by decide +kernel

/-- what a character other than '-' does to the cell under construction: the new cell, or failure.
    The finished cells are not touched (`dotsStep_toOption`). -/
def cellStep (cur : Option Nat) (c : Nat) : Option Nat :=
  match dotBit? c, cur with
  | some d, none => some d
  | some d, some cell => if cell = 0 ∨ cell &&& d ≠ 0 then none else some (cell ||| d)
  | none, none => if c = 48 then some 0 else none
  | none, some _ => none

theorem dotsStep_toOption (cells : List Nat) (cur : Option Nat) {c : Nat} (hc : c ≠ 45) :
    (dotsStep ⟨cells, cur⟩ c).toOption = (cellStep cur c).map fun v => ⟨cells, some v⟩ := by
  unfold dotsStep cellStep
  cases dotBit? c <;> cases cur <;> simp only [hc, if_false] <;> repeat' split
  all_goals simp_all [Except.toOption]

theorem dotsStep_ok {cells : List Nat} {cur : Option Nat} {c : Nat} {s' : DState} (hc : c ≠ 45)
    (h : dotsStep ⟨cells, cur⟩ c = .ok s') : ∃ v, cellStep cur c = some v ∧ s' = ⟨cells, some v⟩ := by
  have := dotsStep_toOption cells cur hc
  rw [h] at this
  cases hv : cellStep cur c with
  | none => simp [hv, Except.toOption] at this
  | some v => exact ⟨v, rfl, by simpa [hv, Except.toOption] using this⟩

theorem dotsStep_dash (cells : List Nat) (cur : Option Nat) :
    dotsStep ⟨cells, cur⟩ 45 =
      match cur with
      | none => .error .missing
      | some cell => .ok ⟨cells ++ [cell ||| DOTSBIT], none⟩ := by
  simp only [dotsStep, dotBit_45]
  cases cur <;> rfl

/-- a '0' or an invalid character fails in either place; two dots are each tested against the cell and against
    each other -/
theorem cellStep_comm (cur : Option Nat) (x y : Nat) :
    (cellStep cur x).bind (cellStep · y) = (cellStep cur y).bind (cellStep · x) := by
  unfold cellStep
  cases hx : dotBit? x <;> cases hy : dotBit? y <;> cases cur <;> simp
  · split <;> simp
  · simp [dotBit_ne_zero hx, dotBit_ne_zero hy, Nat.and_comm, Nat.or_comm]
  · rename_i d1 d2 cell
    by_cases hc : cell = 0
    · simp [hc]
    · by_cases a1 : cell &&& d1 = 0 <;> by_cases a2 : cell &&& d2 = 0 <;>
        simp [hc, a1, a2, Nat.and_or_distrib_right, Nat.or_assoc, Nat.or_comm d1 d2, Nat.and_comm d1 d2, Nat.or_eq_zero_iff]

theorem cellStep_val {cur : Option Nat} {c v : Nat} (h : cellStep cur c = some v) :
    v = cur.getD 0 ||| (dotBit? c).getD 0 := by
  unfold cellStep at h
  split at h <;> simp_all

/-- the loop of parseDots with the kind of error forgotten -/
def optStep (o : Option DState) (c : Nat) : Option DState := o.bind fun s => (dotsStep s c).toOption

theorem foldl_optStep_none (l : List Nat) : l.foldl optStep none = none := by
  induction l with
  | nil => rfl
  | cons _ _ ih => exact ih

theorem toOption_foldlM (l : List Nat) (s : DState) : (l.foldlM dotsStep s).toOption = l.foldl optStep (some s) := by
  induction l generalizing s with
  | nil => rfl
  | cons c l ih =>
    rw [List.foldlM_cons, List.foldl_cons]
    cases h : dotsStep s c with
    | error e => simp [optStep, h, Except.toOption, bind, Except.bind, foldl_optStep_none]
    | ok s1 => simpa [optStep, h, Except.toOption, bind, Except.bind] using ih s1

theorem optStep_comm (o : Option DState) {x y : Nat} (hx : x ≠ 45) (hy : y ≠ 45) :
    optStep (optStep o x) y = optStep (optStep o y) x := by
  cases o with
  | none => rfl
  | some s =>
    have h := congrArg (Option.map fun v => (⟨s.cells, some v⟩ : DState)) (cellStep_comm s.cur x y)
    simpa [optStep, dotsStep_toOption _ _ hx, dotsStep_toOption _ _ hy, Option.bind_map, Function.comp_def] using h

theorem foldl_optStep_perm {l1 l2 : List Nat} (hp : l1.Perm l2) (h45 : 45 ∉ l1) (o : Option DState) :
    l1.foldl optStep o = l2.foldl optStep o :=
  hp.foldl_eq' (fun _ hx _ hy o => optStep_comm o (fun e => h45 (e ▸ hx)) (fun e => h45 (e ▸ hy))) o

/-- cell-wise permutation of a dots operand; no cell holds a '-' (45) -/
inductive CellsPerm : List (List Nat) → List (List Nat) → Prop
  | nil : CellsPerm [] []
  | cons {a b : List Nat} {as bs : List (List Nat)} : a.Perm b → 45 ∉ a → CellsPerm as bs → CellsPerm (a :: as) (b :: bs)

def joinDash : List (List Nat) → List Nat
  | [] => []
  | [a] => a
  | a :: b :: r => a ++ 45 :: joinDash (b :: r)

theorem foldl_optStep_cellsPerm {c1 c2 : List (List Nat)} (h : CellsPerm c1 c2) (o : Option DState) :
    (joinDash c1).foldl optStep o = (joinDash c2).foldl optStep o := by
  induction h generalizing o with
  | nil => rfl
  | @cons a b as bs hp h45 htail ih =>
    cases htail with
    | nil => exact foldl_optStep_perm hp h45 o
    | cons => simp only [joinDash, List.foldl_append, List.foldl_cons, foldl_optStep_perm hp h45 o, ih]

theorem parseDots_toOption (tok : List Nat) :
    (parseDots tok).toOption = (tok.foldl optStep (some ⟨[], none⟩)).bind fun s => (dotsFinish s).toOption := by
  unfold parseDots
  rw [← toOption_foldlM]
  cases tok.foldlM dotsStep ⟨[], none⟩ <;> rfl

def orBits (l : List Nat) : Nat := (l.filterMap dotBit?).foldl (· ||| ·) 0

theorem orBits_cons (c : Nat) (l : List Nat) : orBits (c :: l) = (dotBit? c).getD 0 ||| orBits l := by
  unfold orBits
  cases h : dotBit? c with
  | none => simp [List.filterMap_cons_none h]
  | some d => rw [List.filterMap_cons_some h, List.foldl_cons, Nat.or_comm 0 d, List.foldl_assoc]; rfl

theorem foldlM_dots_cell (l cells : List Nat) (v : Nat) (s' : DState) (h45 : 45 ∉ l)
    (h : l.foldlM dotsStep ⟨cells, some v⟩ = .ok s') : s' = ⟨cells, some (v ||| orBits l)⟩ := by
  induction l generalizing v with
  | nil => injection h with h; simp [← h, orBits]
  | cons c l ih =>
    obtain ⟨s1, hs, h⟩ := bind_ok h
    obtain ⟨v', hv, rfl⟩ := dotsStep_ok (fun e => h45 (by simp [e])) hs
    rw [ih v' (fun hm => h45 (by simp [hm])) h, orBits_cons, cellStep_val hv, Nat.or_assoc]
    rfl

theorem dotsStep_len {s s1 : DState} {c : Nat} (h : dotsStep s c = .ok s1) :
    s1.cells.length + (if s1.cur.isSome then 1 else 0) ≤ s.cells.length + (if s.cur.isSome then 1 else 0) + 1 := by
  obtain ⟨cells, cur⟩ := s
  by_cases hc : c = 45
  · subst hc
    rw [dotsStep_dash] at h
    cases cur with
    | none => cases h
    | some cell => injection h with h; simp [← h]
  · obtain ⟨v, -, rfl⟩ := dotsStep_ok hc h
    simp only [Option.isSome_some, if_true]
    omega

theorem foldlM_dots_len (l : List Nat) (s s' : DState) (h : l.foldlM dotsStep s = .ok s') :
    s'.cells.length + (if s'.cur.isSome then 1 else 0) ≤ s.cells.length + (if s.cur.isSome then 1 else 0) + l.length := by
  induction l generalizing s with
  | nil => injection h with h; subst h; exact Nat.le_refl _
  | cons c l ih =>
    obtain ⟨s1, hs, h⟩ := bind_ok h
    have := ih s1 h
    have := dotsStep_len hs
    simp only [List.length_cons]
    omega

theorem extWiden_bound (bs : List Nat) : (extWiden bs).length ≤ MAXSTRING - 1 := by
  unfold extWiden
  simp only [List.length_map, List.length_take]
  omega

end Lou.Lexer
