/-
  The chain walks of the main passes (`Fwd.walkChain`, `FwdC.walkChainC`, `Back.walkChain`, `BackC.walkChainC`) have one
  shape: along a chain of rule indices, stop with nothing at an index that dangles, answer at the first rule that passes
  a test, go on otherwise.  Here: that shape as a `List.find?` (`walk_eq_find`; Lemmas/Forward and Lemmas/Backward
  instantiate it once per walk), what is read off such an instance for any walk (taken as `hw`), and the tests
  themselves, in the words in which C05 states the choice of a rule.
-/
import LouModel.ForwardCtx
import LouModel.BackwardCtx

namespace Lou

theorem walk_eq_find {ι ρ σ : Type} {look : ι → Option ρ} {cand : ρ → Bool} {ans : ρ → σ} {w : List ι → Option σ}
    (h0 : w [] = none)
    (hs : ∀ i rest, w (i :: rest) = (look i).bind fun r => if cand r then some (ans r) else w rest) :
    ∀ chain, w chain = ((chain.find? fun i => (look i).all cand).bind look).map ans
  | [] => h0
  | i :: rest => by
    rw [hs, List.find?_cons]
    cases hr : look i with
    | none =>
      rw [Option.all_none, Option.bind_some, hr]
      rfl
    | some r =>
      rw [Option.all_some, Option.bind_some]
      cases cand r with
      | false => exact walk_eq_find h0 hs rest
      | true =>
        rw [Option.bind_some, hr]
        rfl

section readings
variable {ι ρ σ : Type} {look : ι → Option ρ} {cand : ρ → Bool} {ans : ρ → σ} {w : List ι → Option σ}
  (hw : ∀ chain, w chain = ((chain.find? fun i => (look i).all cand).bind look).map ans)
include hw

theorem walk_first {chain : List ι} {s : σ} (h : w chain = some s) :
    ∃ pre i post r, chain = pre ++ i :: post ∧ look i = some r ∧ s = ans r ∧ cand r = true ∧
      ∀ j ∈ pre, ∀ q, look j = some q → cand q = false := by
  rw [hw] at h
  obtain ⟨r, hf, rfl⟩ := Option.map_eq_some_iff.mp h
  obtain ⟨i, hi, hr⟩ := Option.bind_eq_some_iff.mp hf
  obtain ⟨hc, pre, post, rfl, hpre⟩ := List.find?_eq_some_iff_append.mp hi
  rw [hr] at hc
  refine ⟨pre, i, post, r, rfl, hr, rfl, hc, fun j hj q hq => ?_⟩
  have hn := hpre j hj
  rw [hq] at hn
  exact (Bool.not_eq_true' _).mp hn

theorem walk_some {chain : List ι} {s : σ} (h : w chain = some s) :
    ∃ i ∈ chain, ∃ r, look i = some r ∧ s = ans r ∧ cand r = true := by
  obtain ⟨pre, i, post, r, rfl, hr, hs, hc, -⟩ := walk_first hw h
  exact ⟨i, List.mem_append_right _ List.mem_cons_self, r, hr, hs, hc⟩

theorem walk_cons_of_cand {i : ι} {rest : List ι} {r : ρ} (hr : look i = some r) (hc : cand r = true) :
    w (i :: rest) = some (ans r) := by
  rw [hw, List.find?_cons_of_pos, Option.bind_some, hr]
  · rfl
  · rw [hr]
    exact hc

end readings

theorem find?_all_bind_congr {ι ρ σ : Type} {look : ι → Option ρ} {cand cand' : ρ → Bool} {ans ans' : ρ → σ}
    (h : ∀ i r, look i = some r → cand r = cand' r ∧ ans r = ans' r) (chain : List ι) :
    ((chain.find? fun i => (look i).all cand).bind look).map ans =
      ((chain.find? fun i => (look i).all cand').bind look).map ans' := by
  have hq : (fun i => (look i).all cand) = fun i => (look i).all cand' := funext fun i => by
    cases hr : look i with
    | none => rfl
    | some r => exact (h i r hr).1
  rw [hq]
  refine Option.map_congr fun r hf => ?_
  obtain ⟨i, -, hr⟩ := Option.bind_eq_some_iff.mp hf
  exact (h i r hr).2

theorem find?_all_bind {ι ρ : Type} {look : ι → Option ρ} {cand : ρ → Bool} :
    ∀ {chain : List ι}, (∀ i ∈ chain, ∃ r, look i = some r) →
      (chain.find? fun i => (look i).all cand).bind look = (chain.filterMap look).find? cand
  | [], _ => rfl
  | i :: rest, h => by
    obtain ⟨r, hr⟩ := h i List.mem_cons_self
    rw [List.filterMap_cons_some hr, List.find?_cons, List.find?_cons, hr, Option.all_some]
    cases cand r with
    | false => exact find?_all_bind fun j hj => h j (List.mem_cons_of_mem _ hj)
    | true => exact hr

end Lou

namespace Lou.C05

/-- the test `for_selectRule` applies to one candidate of a multi-character chain -/
def applicable (t : Table) (mode : Nat) (dc : Bool) (input : List Nat) (pos before prevOp : Nat) (r : Rule) : Bool :=
  (r.chars.length ≤ input.length - pos && Fwd.validMatch t input pos r) &&
  Fwd.opcodeAccepts r.opcode mode dc before (Fwd.afterAttrs t input pos r.chars.length) prevOp

/-- what `Fwd.walkChain` answers when it takes `r` -/
def toSel (r : Rule) : Fwd.Sel := { opcode := r.opcode, rule := some r, charslen := r.chars.length }

end Lou.C05

namespace Lou.C05Ctx
open Lou Lou.Gen Lou.Fwd Lou.FwdC

/-- the test `FwdC.walkChainC` applies to one rule of a chain: its characters match, and a `context` rule needs
    `posIncremented` and a test that does not fail, any other rule its opcode condition -/
def candidate (t : Table) (mode : Nat) (dc : Bool) (input : List Nat) (pos length before prevOp : Nat)
    (single posInc : Bool) (vars : List Nat) (r : Rule) : Bool :=
  (single || (decide (r.chars.length ≤ length) && validMatch t input pos r)) &&
  (if r.opcode == CTO_Context then
     posInc && (match Pass.fwdTest ⟨t, false, vars⟩ r.dots input pos (r.dots.length + 1) pos 0 (-1) (-1) false with
                | .fail => false
                | _ => true)
   else opcodeAccepts r.opcode mode dc before (afterAttrs t input pos r.chars.length) prevOp)

variable {t : Table} {mode : Nat} {dc : Bool} {input : List Nat} {pos length before prevOp : Nat} {single posInc : Bool}
  {vars : List Nat} {r : Rule}

theorem candidate_match (h : candidate t mode dc input pos length before prevOp single posInc vars r = true) :
    single = true ∨ r.chars.length ≤ length ∧ validMatch t input pos r = true := by
  rw [candidate, Bool.and_eq_true] at h
  simpa only [Bool.or_eq_true, Bool.and_eq_true, decide_eq_true_eq] using h.1

theorem candidate_posInc (h : candidate t mode dc input pos length before prevOp single posInc vars r = true)
    (hop : r.opcode = CTO_Context) : posInc = true := by
  rw [candidate, if_pos (beq_iff_eq.mpr hop), Bool.and_eq_true, Bool.and_eq_true] at h
  exact h.2.1

end Lou.C05Ctx

namespace Lou.C05CtxB
open Lou Lou.Gen Lou.Back Lou.BackC

/-- the test `BackC.walkChainC` applies to one rule of a chain; a `context` rule is compared by its characters (what it
    is filed under backward), any other rule by its cells -/
def candidate (t : Table) (mode : Nat) (ctx : Back.Ctx) (input : List Nat) (pos length before prevOp : Nat) (vars : List Nat) (r : Rule) : Bool :=
  if r.opcode == CTO_Context then
    decide (r.chars.length ≤ length) && (input.drop pos).take r.chars.length == r.chars &&
    (match Pass.backTest ⟨t, true, vars⟩ r.dots input pos (r.dots.length + 1) pos 0 (-1) (-1) false with
     | .fail => false
     | _ => true)
  else
    decide (r.dots.length ≤ length) && decide (r.dots.length > 0) && (input.drop pos).take r.dots.length == r.dots &&
    opcodeAccepts t mode ctx input pos r r.dots.length before (afterAttrs t input pos r.dots.length) prevOp

/-- what a candidate covers, which is the `dotslen` the walk answers with (`BackC.toSelC`), lies within the length given
    to the walk -/
theorem candidate_length {t : Table} {mode : Nat} {ctx : Back.Ctx} {input : List Nat} {pos length before prevOp : Nat}
    {vars : List Nat} {r : Rule} (h : candidate t mode ctx input pos length before prevOp vars r = true) :
    (if r.opcode == CTO_Context then r.chars.length else r.dots.length) ≤ length := by
  unfold candidate at h
  split
  · next ho =>
    rw [if_pos ho] at h
    simp only [Bool.and_eq_true, decide_eq_true_eq] at h
    exact h.1.1
  · next ho =>
    rw [if_neg ho] at h
    simp only [Bool.and_eq_true, decide_eq_true_eq] at h
    exact h.1.1.1

end Lou.C05CtxB
