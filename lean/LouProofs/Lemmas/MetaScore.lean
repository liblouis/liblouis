/-
  What one queried key contributes (plain keys in closed form, language keys case by case); the loop of
  `lou_getTableInfo` on a sorted list and the line numbers it compares.
-/
import LouProofs.Lemmas.Meta

namespace Lou.Meta
open Lou.Gen.MetaConsts

/-- `neg`: both loops of `bestMatch` start undecided, with `best < 0`; `pos`: a decided `best` is not negative, so
    the plain loop looks no further -/
structure Weights.Sane (W : Weights) : Prop where
  neg : W.negMatch < 0
  pos : 0 ≤ W.posMatch - UCS2_FOR_UCS4_PENALTY

theorem strictW_sane : strictW.Sane := ⟨by decide, by decide⟩
theorem fuzzyW_sane : fuzzyW.Sane := ⟨by decide, by decide⟩

theorem penalty_nonneg : 0 ≤ UCS2_FOR_UCS4_PENALTY := by decide

/-- `best += ((extraLanguages + 4) / 5)` (metadata.c:465) adds nothing when no other language was declared: the
    rounding summand is smaller than the divisor.  `C18.weight_order` lists the same fact among the order facts. -/
theorem extraLang_zero : (0 + EXTRA_LANG_ADD).tdiv EXTRA_LANG_DIV = 0 := by decide

/-- the ucs4-query special case does not apply -/
def noSpecial (isUR : Bool) (qv : Str) : Prop := (isUR && cmpCI qv UR_QUERY_SPECIAL == .eq) = false

/-- a declared value that ends the plain loop: equal to the queried one, or the ucs2 of a ucs4 query -/
def decides (isUR : Bool) (qv v : Str) : Bool :=
  cmpCI qv v == .eq || (isUR && cmpCI qv UR_QUERY_SPECIAL == .eq && cmpCI v UR_TABLE_SPECIAL == .eq)

theorem strBest_eq (W : Weights) (hW : W.Sane) (isUR : Bool) (qv : Str) (g : List Str) :
    strBest W isUR qv g =
      match g.find? (decides isUR qv) with
      | none => W.negMatch
      | some v => if cmpCI qv v = .eq then W.posMatch else W.posMatch - UCS2_FOR_UCS4_PENALTY := by
  have hpos := hW.pos
  have hpen := penalty_nonneg
  -- the first value that decides makes `best` non-negative, and then no later value is looked at
  have frozen : ∀ (g : List Str) (b : Int), 0 ≤ b → g.foldl (strStep W isUR qv) b = b := fun g b hb =>
    List.foldlRecOn g _ (motive := (· = b)) rfl fun st hst v _ => by rw [hst, strStep, if_neg (by omega)]
  suffices H : ∀ b : Int, b < 0 → g.foldl (strStep W isUR qv) b =
      match g.find? (decides isUR qv) with
      | none => b
      | some v => if cmpCI qv v = .eq then W.posMatch else W.posMatch - UCS2_FOR_UCS4_PENALTY from H _ hW.neg
  induction g with
  | nil => intros; rfl
  | cons v vs ih =>
    intro b hb
    have hstep : strStep W isUR qv b v = if decides isUR qv v then
        (if cmpCI qv v = .eq then W.posMatch else W.posMatch - UCS2_FOR_UCS4_PENALTY) else b := by
      rw [strStep, if_pos hb, decides]; by_cases he : cmpCI qv v = .eq <;> simp [he]
    rw [List.foldl_cons, List.find?_cons, hstep]
    cases decides isUR qv v
    · exact ih b hb
    · exact frozen _ _ (by simp only [if_true]; split <;> omega)

theorem decides_of_noSpecial {isUR : Bool} {qv : Str} (hns : noSpecial isUR qv) (v : Str) :
    decides isUR qv v = (cmpCI qv v == .eq) := by
  unfold noSpecial at hns; simp [decides, hns]

theorem strBest_of_same (W : Weights) (hW : W.Sane) (isUR : Bool) (qv : Str) (g : List Str)
    (h : ∃ v ∈ g, cmpCI qv v = .eq) :
    W.posMatch - UCS2_FOR_UCS4_PENALTY ≤ strBest W isUR qv g ∧
      (noSpecial isUR qv → strBest W isUR qv g = W.posMatch) := by
  obtain ⟨v, hv, he⟩ := h
  have := penalty_nonneg
  rw [strBest_eq W hW]
  cases hf : g.find? (decides isUR qv) with
  | none => simpa [decides, he] using List.find?_eq_none.1 hf v hv
  | some w =>
    refine ⟨by simp only; split <;> omega, fun hns => ?_⟩
    simp [beq_iff_eq.1 (decides_of_noSpecial hns w ▸ List.find?_some hf)]

theorem strBest_other (W : Weights) (hW : W.Sane) (isUR : Bool) (qv : Str) (hns : noSpecial isUR qv) (g : List Str)
    (h : ∀ v ∈ g, cmpCI qv v ≠ .eq) : strBest W isUR qv g = W.negMatch := by
  rw [strBest_eq W hW, List.find?_eq_none.2 fun v hv => by simp [decides_of_noSpecial hns, h v hv]]

theorem strBest_single_same (W : Weights) (hW : W.Sane) (isUR : Bool) (qv v : Str) (h : cmpCI qv v = .eq) :
    strBest W isUR qv [v] = W.posMatch := by
  simp [strBest_eq W hW, decides, h]

theorem matchLangRest_self (rs ts : List Str) (q : Int) (h : ts.map lowerStr = rs.map lowerStr) :
    matchLangRest rs ts q = q := by
  induction ts generalizing rs with
  | nil =>
    cases rs with
    | nil => simp [matchLangRest]
    | cons r rs => simp at h
  | cons t ts ih =>
    cases rs with
    | nil => simp at h
    | cons r rs =>
      simp only [List.map_cons, List.cons.injEq] at h
      rw [matchLangRest]
      simp [cmpCI_eq_iff.2 h.1, ih rs h.2]

/-- the range starts with `*` (42) -/
def starRange (range : List Str) : Bool := (range.head?.bind List.head?) == some 42

theorem matchLanguageTags_same (tag range : List Str) (hne : tag ≠ [])
    (h : tag.map lowerStr = range.map lowerStr) (hstar : starRange range = false) :
    matchLanguageTags tag range = LANG_POS_MATCH := by
  cases tag with
  | nil => exact absurd rfl hne
  | cons t ts =>
    cases range with
    | nil => simp at h
    | cons r rs =>
      simp only [List.map_cons, List.cons.injEq] at h
      have hs : (r.head? == some 42) = false := by simpa [starRange] using hstar
      simp [matchLanguageTags, hs, cmpCI_eq_iff.2 h.1, matchLangRest_self rs ts _ h.2]

theorem langBest_none (W : Weights) (hW : W.Sane) (qv : List Str) (g : List (List Str))
    (h : ∀ v ∈ g, matchLanguageTags qv v ≤ 0) : langBest W qv g = W.negMatch := by
  have key : (g.foldl (langStep W qv) (W.negMatch, 0)).1 = W.negMatch :=
    List.foldlRecOn g _ (motive := fun st : Int × Int => st.1 = W.negMatch) rfl fun st hst v hv => by
      have := h v hv
      rw [langStep, if_neg (by omega)]; split <;> exact hst
  have hneg := hW.neg
  simp only [langBest, key]
  rw [if_neg (by omega)]

theorem langBest_nil (W : Weights) (hW : W.Sane) (qv : List Str) : langBest W qv [] = W.negMatch :=
  langBest_none W hW qv [] fun _ h => absurd h List.not_mem_nil

theorem langBest_single (W : Weights) (hW : W.Sane) (qv v : List Str) (hm : 0 < matchLanguageTags qv v) :
    langBest W qv [v] = matchLanguageTags qv v := by
  have hneg := hW.neg
  have hstep : langStep W qv (W.negMatch, 0) v = (matchLanguageTags qv v, 0) := by
    rw [langStep]; exact if_pos ⟨hm, by omega⟩
  simp only [langBest, List.foldl_cons, List.foldl_nil, hstep]
  rw [if_pos hm, extraLang_zero]
  omega

theorem sum_map_le_lt {α} (f g : α → Int) (l : List α) (h : ∀ a ∈ l, f a ≤ g a) :
    (l.map f).sum ≤ (l.map g).sum ∧ ((∃ a ∈ l, f a < g a) → (l.map f).sum < (l.map g).sum) := by
  induction l with
  | nil => simp
  | cons a t ih =>
    have ⟨ha, ht⟩ := List.forall_mem_cons.1 h
    have ⟨hle, hlt⟩ := ih ht
    simp only [List.map_cons, List.sum_cons]
    refine ⟨Int.add_le_add ha hle, fun ⟨b, hb, hs⟩ => ?_⟩
    rcases List.mem_cons.1 hb with rfl | hb
    · exact Int.add_lt_add_of_lt_of_le hs hle
    · exact Int.add_lt_add_of_le_of_lt ha (hlt ⟨b, hb, hs⟩)

theorem sum_map_const {α} (f : α → Int) (c : Int) (l : List α) (h : ∀ a ∈ l, f a = c) :
    (l.map f).sum = c * l.length := by
  rw [List.map_congr_left h, List.map_const', List.sum_replicate_int, Int.mul_comm]

/-- `hinv`, the state of the loop: `f` is still ahead and no line at or below its own has been taken, or `f` has
    been taken -/
theorem infoLoop_first (key : Str) (f : Feat) (hk : cmpCI f.key key = .eq) (hfl : 0 ≤ f.line)
    (l : List Feat) (hs : KeysSorted l)
    (hmin : ∀ g ∈ l, cmpCI g.key key = .eq → g = f ∨ f.line < g.line)
    (v : Option Val) (ln : Int)
    (hinv : (f ∈ l ∧ (ln < 0 ∨ f.line < ln)) ∨ (v = some f.val ∧ ln = f.line)) :
    infoLoop key l v ln = some f.val := by
  induction l generalizing v ln with
  | nil =>
    rcases hinv with ⟨h, _⟩ | ⟨h, _⟩
    · cases h
    · exact h
  | cons g l ih =>
    have ⟨hg, hmin'⟩ := List.forall_mem_cons.1 hmin
    rw [infoLoop]
    by_cases hfg : g = f
    · -- `f` itself is taken, unless it has been taken before (`l` may hold it twice)
      rw [hfg, hk]
      rcases hinv with ⟨_, h⟩ | ⟨hv, hln⟩
      · exact (if_pos (by omega)).trans (ih hs.tail hmin' _ _ (.inr ⟨rfl, rfl⟩))
      · exact (if_neg (by omega)).trans (ih hs.tail hmin' _ _ (.inr ⟨hv, hln⟩))
    · have hinv' := hinv.imp_left fun ⟨hin, h⟩ => And.intro (List.mem_of_ne_of_mem (Ne.symm hfg) hin) h
      split
      · next heq =>
        have hlt := (hg heq).resolve_left hfg
        split
        · refine ih hs.tail hmin' _ _ (.inl ⟨?_, .inr hlt⟩)
          rcases hinv' with ⟨h, _⟩ | ⟨_, hln⟩
          · exact h
          · omega
        · exact ih hs.tail hmin' _ _ hinv'
      · next hgt =>
        rcases hinv' with ⟨hin, _⟩ | ⟨h, _⟩
        · exact absurd hgt (by rw [← cmpCI_congr_right hk]; exact hs.head_le f hin)
        · exact h
      · exact ih hs.tail hmin' _ _ hinv'

theorem infoLoop_none (key : Str) (l : List Feat) (h : ∀ g ∈ l, cmpCI g.key key ≠ .eq) (ln : Int) :
    infoLoop key l none ln = none := by
  induction l with
  | nil => rfl
  | cons g l ih =>
    have ⟨hg, hl⟩ := List.forall_mem_cons.1 h
    rw [infoLoop]
    split
    · exact absurd ‹_› hg
    · rfl
    · exact ih hl

/-- line numbers do not increase along the list and lie in `[1, n)`: what holds of the features collected before line
    `n` is read -/
def LinesDescending (n : Int) (l : List Feat) : Prop :=
  l.Pairwise (fun a b => b.line ≤ a.line) ∧ ∀ f ∈ l, 1 ≤ f.line ∧ f.line < n

theorem tableAddFeature_feats {s s' : AState} {k v : Str} {n : Int} (h : tableAddFeature s k v n = some s') :
    ∃ new, s'.feats = new ++ s.feats ∧ ∀ f ∈ new, f.line = n := by
  unfold tableAddFeature at h
  by_cases hl : langTagParsed k = true
  · rw [if_pos hl] at h
    cases hp : parseLanguageTag v with
    | none => rw [hp] at h; cases h
    | some tag =>
      rw [hp] at h; dsimp only at h
      by_cases h1 : eqCI k kLocale = true
      · rw [if_pos h1] at h; cases h; exact ⟨[_, _], rfl, by simp⟩
      · rw [if_neg h1] at h
        -- the three remaining cases differ in `language` and `region` only
        refine ⟨[⟨k, .tag tag, n⟩], ?_, by simp⟩
        split at h
        · cases h; rfl
        · split at h <;> cases h <;> rfl
  · rw [if_neg hl] at h; cases h; exact ⟨[_], rfl, by simp⟩

theorem LinesDescending.push {n : Int} {l new : List Feat} (h : LinesDescending n l) (hn : 1 ≤ n)
    (hnew : ∀ f ∈ new, f.line = n) : LinesDescending (n + 1) (new ++ l) := by
  refine ⟨List.pairwise_append.2 ⟨List.pairwise_of_forall_mem_list fun a ha b hb => ?_, h.1, fun a ha b hb => ?_⟩,
    fun f hf => ?_⟩
  · rw [hnew a ha, hnew b hb]; exact Int.le_refl _
  · have := h.2 b hb; rw [hnew a ha]; omega
  · rcases List.mem_append.1 hf with hf | hf
    · rw [hnew f hf]; omega
    · have := h.2 f hf; omega

theorem analyzeLines_lines (activeOnly : Bool) (ls : List (List Nat)) (n : Int) (hn : 1 ≤ n) (s s' : AState)
    (h : analyzeLines activeOnly ls n s = .done s') (hs : LinesDescending n s.feats) :
    ∃ m, LinesDescending m s'.feats := by
  induction ls generalizing n s with
  | nil => cases h; exact ⟨n, hs⟩
  | cons l ls ih =>
    rw [analyzeLines] at h
    split at h
    · exact ih (n + 1) (by omega) s h (hs.push hn (new := []) nofun)
    · cases h; exact ⟨n, hs⟩
    · cases h
    · split at h
      · cases h
      · next s1 hadd =>
        obtain ⟨new, hf, hnew⟩ := tableAddFeature_feats hadd
        exact ih (n + 1) (by omega) s1 h (hf ▸ hs.push hn hnew)

end Lou.Meta
