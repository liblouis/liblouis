/-
  The invariant of the cache machine, as the theorems of C14 use it.

  A chain is in order when its entries are well formed and no two of them share a table or an entry block (`ChainOK`).
  The ledger is balanced against the LIST of reachable blocks (`blocks`), which is tied to the predicate `live` once
  (`occ_blocks`): no operation needs a case split over the kinds of block.  What one operation owes the invariant is
  `StepOK`; one invariant (`Inv`), one induction over the history (`run_inv`).  Beside `stepCore_ok` stand the two other
  facts about one step that a history needs: a list the operation does not name keeps its table (`stepCore_isolation`),
  and a public both-role call logs compilations of both roles of one list only (`Diag`, `step_diag`).
-/
import LouProofs.Lemmas.Cache

namespace Lou.Cache

/-- no table block and no entry block belongs to two entries of the chain: `lou_free` releases each once
    (`nodup_chainBlocks`), a table that grows moves under one entry only (`retarget_head`), two names never share a
    table (`tableOf_inj`) -/
def Distinct (c : List Entry) : Prop := c.Pairwise (fun e1 e2 => e1.table ≠ e2.table ∧ e1.id ≠ e2.id)

/-- every block of the chain is older than `k` (`Core.next`, the next fresh identity) -/
def Below (c : List Entry) (k : Nat) : Prop := ∀ e ∈ c, e.table < k ∧ e.id < k

/-- `wf` is the hypothesis of `cache_lookup_eq` and `cached_iff`: no proof here consumes it, it is carried so that
    reachable states have it (`(run_inv o h).chains.tr.wf`).  `below` is there only to keep `distinct` when an entry
    is pushed or a table moves. -/
structure ChainOK (c : List Entry) (k : Nat) : Prop where
  wf : ChainWF c
  distinct : Distinct c
  below : Below c k

theorem ChainOK.perm {c c' : List Entry} {k : Nat} (h : ChainOK c k) (p : c'.Perm c) : ChainOK c' k :=
  ⟨fun e he => h.wf e (p.mem_iff.mp he),
   (p.pairwise_iff fun h => ⟨fun x => h.1 x.symm, fun x => h.2 x.symm⟩).mpr h.distinct,
   fun e he => h.below e (p.mem_iff.mp he)⟩

theorem ChainOK.mono {c : List Entry} {k k' : Nat} (h : ChainOK c k) (hk : k ≤ k') : ChainOK c k' :=
  ⟨h.wf, h.distinct, fun e he => ⟨Nat.lt_of_lt_of_le (h.below e he).1 hk, Nat.lt_of_lt_of_le (h.below e he).2 hk⟩⟩

theorem chainOK_cons_iff {e : Entry} {es : List Entry} {k : Nat} :
    ChainOK (e :: es) k ↔
      ChainOK es k ∧ e.WF ∧ e.table < k ∧ e.id < k ∧ ∀ x ∈ es, e.table ≠ x.table ∧ e.id ≠ x.id := by
  constructor
  · intro h
    have hp := List.pairwise_cons.mp h.distinct
    exact ⟨⟨fun x hx => h.wf x (by simp [hx]), hp.2, fun x hx => h.below x (by simp [hx])⟩,
      h.wf e (by simp), (h.below e (by simp)).1, (h.below e (by simp)).2, hp.1⟩
  · rintro ⟨h, hw, ht, hi, hd⟩
    exact ⟨by simpa [ChainWF] using ⟨hw, h.wf⟩, List.pairwise_cons.mpr ⟨hd, h.distinct⟩,
      by simpa [Below] using ⟨⟨ht, hi⟩, h.below⟩⟩

theorem ChainOK.push {c : List Entry} {k k' : Nat} {w : Option Name} {i t : Nat} (h : ChainOK c k) (hk : k ≤ k')
    (hw : w.isSome → k ≤ i ∧ k ≤ t ∧ i < k' ∧ t < k') : ChainOK (push c w i t) k' := by
  cases w with
  | none => exact h.mono hk
  | some n =>
    obtain ⟨hi, ht, hi', ht'⟩ := hw rfl
    exact chainOK_cons_iff.mpr ⟨h.mono hk, newEntry_wf _ _ _, ht', hi', fun x hx => by
      have := h.below x hx; simp only [newEntry]; omega⟩

/-- nothing here looks at `finalized` -/
theorem ChainOK.setFinal {e : Entry} {es : List Entry} {k : Nat} (h : ChainOK (e :: es) k) :
    ChainOK ({ e with finalized := true } :: es) k :=
  chainOK_cons_iff.mpr (chainOK_cons_iff (e := e).mp h)

theorem ChainOK.retarget {e : Entry} {es : List Entry} {k : Nat} (h : ChainOK (e :: es) k) :
    ChainOK ({ e with table := k } :: es) (k + 1) := by
  obtain ⟨h', hw, _, hi, hd⟩ := chainOK_cons_iff.mp h
  exact chainOK_cons_iff.mpr ⟨h'.mono (Nat.le_succ k), hw, Nat.lt_succ_self k, Nat.lt_succ_of_lt hi, fun x hx =>
    ⟨by have := (h'.below x hx).1; dsimp only; omega, (hd x hx).2⟩⟩

theorem retarget_head {e : Entry} {es : List Entry} (hd : Distinct (e :: es)) (a' : Nat) :
    retarget e.table a' (e :: es) = { e with table := a' } :: es := by
  have : ∀ x ∈ es, (if x.table = e.table then { x with table := a' } else x) = x := fun x hx =>
    if_neg fun h => ((List.pairwise_cons.mp hd).1 x hx).1 h.symm
  simp only [retarget, List.map_cons, if_true, List.map_congr_left this, List.map_id']

theorem mem_same_table {c : List Entry} (hd : Distinct c) {x y : Entry} (hx : x ∈ c) (hy : y ∈ c)
    (ht : x.table = y.table) : x = y :=
  List.Pairwise.forall_of_forall_of_flip (R := fun x y => x.table = y.table → x = y) (fun _ _ _ => rfl)
    (hd.imp fun h ht => absurd ht h.1) (hd.imp fun h ht => absurd ht.symm h.1) hx hy ht

theorem tableOf_inj {c : List Entry} (hd : Distinct c) {n m : Name} {t : Nat} (hn : tableOf c n = some t)
    (hm : tableOf c m = some t) : n = m := by
  obtain ⟨x, h1, hx⟩ := Option.map_eq_some_iff.mp hn
  obtain ⟨y, h2, hy⟩ := Option.map_eq_some_iff.mp hm
  obtain rfl := mem_same_table hd (List.mem_of_find?_eq_some h1) (List.mem_of_find?_eq_some h2) (hx.trans hy.symm)
  exact hit_inj (List.find?_some (p := fun e : Entry => e.hit n) h1)
    (List.find?_some (p := fun e : Entry => e.hit m) h2)

structure CoreOK (c : Core) : Prop where
  tr : ChainOK c.tr c.next
  disp : ChainOK c.disp c.next

/-- the function of core's `Bool.toNat`, defined again here: core's lemmas about that one do not rewrite this one -/
def b2n (b : Bool) : Nat := if b then 1 else 0

/-- likewise for core's `Bool.toInt` -/
def b2i (b : Bool) : Int := if b then 1 else 0

def hasTable (c : List Entry) (x : Nat) : Bool := c.any (·.table == x)
def hasId (c : List Entry) (x : Nat) : Bool := c.any (·.id == x)

def slotLive : Nat → List Alloc.Slot → Nat → Bool
  | k, s :: ss, j => (k == j && s.alloc.isSome) || slotLive (k + 1) ss j
  | _, [], _ => false

/-- the blocks the library can still reach from its chains and scratch pointers -/
def liveC (c : Core) : Block → Bool
  | .trTable a => hasTable c.tr a
  | .trEntry i => hasId c.tr i
  | .dispTable a => hasTable c.disp a
  | .dispEntry i => hasId c.disp i
  | .scratch k => if k = 8 then c.wordBuf else if k = 9 then c.emphBuf else slotLive 0 (slots c.alloc) k
  | .fwdPool => false
  | .bwdPool => false

/-- … plus the two pool headers, which stay reachable from `stringBufferPool` for ever -/
def live (s : State) (b : Block) : Bool :=
  liveC s.core b || (b == .fwdPool && s.fwdPool) || (b == .bwdPool && s.bwdPool)

theorem hasTable_push (c : List Entry) (w : Option Name) (i t x : Nat) :
    hasTable (push c w i t) x = ((w.isSome && t == x) || hasTable c x) := by
  cases w <;> simp [push, hasTable, newEntry]

theorem hasId_push (c : List Entry) (w : Option Name) (i t x : Nat) :
    hasId (push c w i t) x = ((w.isSome && i == x) || hasId c x) := by
  cases w <;> simp [push, hasId, newEntry]

theorem hasId_retarget (a a' : Nat) (c : List Entry) (x : Nat) : hasId (retarget a a' c) x = hasId c x := by
  simp only [hasId, retarget, List.any_map]
  congr 1; funext e; simp only [Function.comp]; split <;> rfl

theorem liveC_congr (c c' : Core) (h1 : ∀ x, hasTable c'.tr x = hasTable c.tr x) (h2 : ∀ x, hasId c'.tr x = hasId c.tr x)
    (h3 : ∀ x, hasTable c'.disp x = hasTable c.disp x) (h4 : ∀ x, hasId c'.disp x = hasId c.disp x)
    (h5 : c'.alloc = c.alloc) (h6 : c'.wordBuf = c.wordBuf) (h7 : c'.emphBuf = c.emphBuf) (b : Block) :
    liveC c' b = liveC c b := by
  simp [liveC, h1, h2, h3, h4, h5, h6, h7]

theorem liveC_init (b : Block) : liveC {} b = false := by
  cases b <;> simp [liveC, hasTable, hasId, slots, slotLive]

theorem liveC_pool (c : Core) : liveC c .fwdPool = false ∧ liveC c .bwdPool = false := ⟨rfl, rfl⟩

theorem occ_of_nodup {l : List Block} (h : l.Nodup) (b : Block) : occ b l = b2i (decide (b ∈ l)) := by
  induction l with
  | nil => rfl
  | cons x l ih =>
    obtain ⟨hx, hl⟩ := List.nodup_cons.mp h
    rw [occ_cons, ih hl, delta]
    by_cases hb : x = b
    · subst hb; simp [b2i, hx]
    · simp [b2i, hb, Ne.symm hb]

def chainBlocks (T E : Nat → Block) (c : List Entry) : List Block := c.flatMap fun e => [T e.table, E e.id]

theorem chainBlocks_cons (T E : Nat → Block) (e : Entry) (c : List Entry) :
    chainBlocks T E (e :: c) = T e.table :: E e.id :: chainBlocks T E c := rfl

def slotBlocks : Nat → List Alloc.Slot → List Block
  | k, s :: ss => (if s.alloc.isSome then [.scratch k] else []) ++ slotBlocks (k + 1) ss
  | _, [] => []

/-- what `liveC` describes, as a list, in the order of `freeEvents` (`freeEvents_eq`) -/
def blocksOf (c : Core) : List Block :=
  chainBlocks .trTable .trEntry c.tr ++ chainBlocks .dispTable .dispEntry c.disp ++ slotBlocks 0 (slots c.alloc) ++
    (if c.wordBuf then [.scratch 8] else []) ++ (if c.emphBuf then [.scratch 9] else [])

def blocks (s : State) : List Block :=
  blocksOf s.core ++ (if s.fwdPool then [.fwdPool] else []) ++ (if s.bwdPool then [.bwdPool] else [])

theorem slotsFree_eq (k : Nat) (ss : List Alloc.Slot) : slotsFree k ss = (slotBlocks k ss).map .rel := by
  induction ss generalizing k with
  | nil => rfl
  | cons s ss ih => simp only [slotsFree, slotBlocks, List.map_append, ih]; split <;> rfl

theorem freeEvents_eq (c : Core) : freeEvents c = (blocksOf c).map .rel := by
  simp only [freeEvents, blocksOf, freeTr, freeDisp, chainBlocks, slotsFree_eq, List.map_append, List.map_flatMap,
    List.map_cons, List.map_nil]
  cases c.wordBuf <;> cases c.emphBuf <;> rfl

theorem slotLive_range {k : Nat} {ss : List Alloc.Slot} {j : Nat} (h : slotLive k ss j = true) :
    k ≤ j ∧ j < k + ss.length := by
  induction ss generalizing k with
  | nil => simp [slotLive] at h
  | cons s ss ih =>
    simp only [slotLive, Bool.or_eq_true, Bool.and_eq_true, beq_iff_eq] at h
    rcases h with ⟨rfl, _⟩ | h
    · simp
    · have := ih h; simp only [List.length_cons]; omega

theorem slotLive_le (k : Nat) (ss : List Alloc.Slot) (j : Nat) (h : slotLive k ss j = true) : k ≤ j :=
  (slotLive_range h).1

theorem mem_slotBlocks {b : Block} {k : Nat} {ss : List Alloc.Slot} :
    b ∈ slotBlocks k ss ↔ ∃ j, b = .scratch j ∧ slotLive k ss j = true := by
  induction ss generalizing k with
  | nil => simp [slotBlocks, slotLive]
  | cons s ss ih =>
    simp only [slotBlocks, slotLive, List.mem_append, ih, Bool.or_eq_true, Bool.and_eq_true, beq_iff_eq]
    cases s.alloc.isSome <;> simp [and_or_left, exists_or]

theorem nodup_slotBlocks (k : Nat) (ss : List Alloc.Slot) : (slotBlocks k ss).Nodup := by
  induction ss generalizing k with
  | nil => exact .nil
  | cons s ss ih =>
    simp only [slotBlocks]
    split
    · refine List.nodup_cons.mpr ⟨fun h => ?_, ih _⟩
      obtain ⟨j, hj, h⟩ := mem_slotBlocks.mp h
      have := slotLive_range h
      cases hj; omega
    · exact ih _

theorem balance_slotsFree (j k : Nat) (ss : List Alloc.Slot) :
    balance (.scratch j) (slotsFree k ss) = - b2i (slotLive k ss j) := by
  rw [slotsFree_eq, balance_map_rel, occ_of_nodup (nodup_slotBlocks k ss)]
  simp [mem_slotBlocks]

theorem nodup_chainBlocks {T E : Nat → Block} (hT : ∀ x y, T x = T y → x = y) (hE : ∀ x y, E x = E y → x = y)
    (hTE : ∀ x y, T x ≠ E y) {c : List Entry} (hd : Distinct c) : (chainBlocks T E c).Nodup := by
  induction c with
  | nil => exact .nil
  | cons e es ih =>
    obtain ⟨he, hes⟩ := List.pairwise_cons.mp hd
    simp only [chainBlocks, List.flatMap_cons, List.cons_append, List.nil_append, List.nodup_cons, List.mem_cons,
      List.mem_flatMap, List.mem_nil_iff, or_false, not_or, not_exists, not_and]
    exact ⟨⟨hTE _ _, fun x hx => ⟨fun h => (he x hx).1 (hT _ _ h), hTE _ _⟩⟩,
      fun x hx => ⟨fun h => hTE _ _ h.symm, fun h => (he x hx).2 (hE _ _ h)⟩, ih hes⟩

theorem occ_blocksOf {c : Core} (hc : CoreOK c) (b : Block) : occ b (blocksOf c) = b2i (liveC c b) := by
  have hA : ∀ (f : Entry → Nat) (c : List Entry) x, c.any (f · == x) = decide (∃ e ∈ c, x = f e) := fun f c x => by
    simp [List.any_eq, @eq_comm Nat x]
  simp only [blocksOf, occ_append, occ_ite, occ_of_nodup (nodup_slotBlocks _ _),
    occ_of_nodup (nodup_chainBlocks (T := .trTable) (E := .trEntry) (by simp) (by simp) (by simp) hc.tr.distinct),
    occ_of_nodup (nodup_chainBlocks (T := .dispTable) (E := .dispEntry) (by simp) (by simp) (by simp) hc.disp.distinct)]
  cases b <;> simp [chainBlocks, liveC, hasTable, hasId, hA, mem_slotBlocks, delta, b2i]
  case scratch k =>
    -- the eight slots are numbered 0 … 7: none of them is the word buffer (8) or the emphasis buffer (9)
    have h8 : slotLive 0 (slots c.alloc) 8 = false := by simp [slots, slotLive]
    have h9 : slotLive 0 (slots c.alloc) 9 = false := by simp [slots, slotLive]
    by_cases k8 : 8 = k
    · subst k8; simp [h8]
    · by_cases k9 : 9 = k
      · subst k9; simp [h9]
      · simp [k8, k9, Ne.symm k8, Ne.symm k9]

theorem occ_blocks {s : State} (hc : CoreOK s.core) (b : Block) : occ b (blocks s) = b2i (live s b) := by
  rw [blocks, occ_append, occ_append, occ_blocksOf hc, occ_ite, occ_ite, live]
  by_cases h1 : b = .fwdPool
  · subst h1; simp [liveC, delta, b2i]
  · by_cases h2 : b = .bwdPool
    · subst h2; simp [liveC, delta, b2i]
    · simp [beq_eq_false_iff_ne.mpr h1, beq_eq_false_iff_ne.mpr h2, Ne.symm h1, Ne.symm h2, delta]

theorem occ_chain_look_push (T E : Nat → Block) (c : List Entry) (l w : Option Name) (i t : Nat) (b : Block) :
    occ b (chainBlocks T E (push (look c l).2 w i t)) =
      (if w.isSome then delta b (.acq (T t)) + delta b (.acq (E i)) else 0) + occ b (chainBlocks T E c) := by
  have hl : occ b (chainBlocks T E (look c l).2) = occ b (chainBlocks T E c) :=
    occ_perm ((look_perm c l).flatMap_right _) b
  cases w with
  | none => rw [push, hl, Option.isSome_none, if_neg Bool.false_ne_true, Int.zero_add]
  | some n =>
    rw [push, chainBlocks_cons, occ_cons, occ_cons, hl, Option.isSome_some, if_pos rfl, Int.add_assoc]
    rfl  -- table and id of `newEntry i n t` are `t` and `i`

structure StepOK (o : Oracle) (c : Core) (r : Out) : Prop where
  chains : CoreOK r.core
  nofreed : Event.freed ∉ r.events
  countT : ∀ n, r.events.countP (isTrCompiled n) + b2n (cached c.tr n) = b2n (cached r.core.tr n)
  countD : ∀ n, r.events.countP (isDispCompiled n) + b2n (cached c.disp n) = b2n (cached r.core.disp n)
  ledger : ∀ b, balance b r.ledger + occ b (blocksOf c) = occ b (blocksOf r.core)
  verdict : ∀ {t d ok}, Event.compile t d ok ∈ r.events → ok = o.compiles t d

theorem getTable_ok (o : Oracle) {c : Core} (hc : CoreOK c) (trL dispL : Option Name) :
    StepOK o c (getTable o c trL dispL) := by
  rw [getTable_eq]
  dsimp only
  have hT : ∀ m, (norm trL).filter (!cached c.tr ·) = some m → cached c.tr m = false := fun m h => by
    simpa using (Option.filter_eq_some_iff.mp h).2
  have hD : ∀ m, (norm dispL).filter (!cached c.disp ·) = some m → cached c.disp m = false := fun m h => by
    simpa using (Option.filter_eq_some_iff.mp h).2
  generalize (norm trL).filter (!cached c.tr ·) = wT at *
  generalize (norm dispL).filter (!cached c.disp ·) = wD at *
  generalize hok : o.compiles wT wD = ok
  refine ⟨⟨?_, ?_⟩, ?_, fun n => ?_, fun n => ?_, fun b => ?_, fun h => ?_⟩ <;> dsimp only at *
  · exact (hc.tr.perm (look_perm _ _)).push (by split <;> omega) (by cases wT <;> cases ok <;> simp <;> omega)
  · exact (hc.disp.perm (look_perm _ _)).push (by split <;> omega) (by cases wD <;> cases ok <;> simp <;> omega)
  · split <;> simp
  -- the two roles alike: the event counts for `n` iff `n` is inserted, and then `n` was not cached before (`hT`, `hD`)
  · rw [cached_look_push]
    cases wT with
    | none => split <;> simp [isTrCompiled]
    | some m =>
      cases ok
      · simp [isTrCompiled]
      · by_cases hm : m = n
        · subst hm; simp [isTrCompiled, b2n, hT m rfl]
        · simp [isTrCompiled, hm]
  · rw [cached_look_push]
    cases wD with
    | none => split <;> simp [isDispCompiled]
    | some m =>
      cases ok
      · simp [isDispCompiled]
      · by_cases hm : m = n
        · subst hm; simp [isDispCompiled, b2n, hD m rfl]
        · simp [isDispCompiled, hm]
  · have := role_balance b wT ok (.trTable c.next) (.trEntry (c.next + 2))
    have := role_balance b wD ok (.dispTable (c.next + 1)) (.dispEntry (c.next + 3))
    simp only [blocksOf, occ_append, occ_chain_look_push, balance_append]
    omega
  · simp_all

theorem StepOK.extend {o : Oracle} {c : Core} {r r' : Out} (h : StepOK o c r) (hch : CoreOK r'.core)
    (hT : ∀ n, cached r'.core.tr n = cached r.core.tr n) (hD : ∀ n, cached r'.core.disp n = cached r.core.disp n)
    (hl : ∀ b, balance b r'.ledger + occ b (blocksOf r.core) = balance b r.ledger + occ b (blocksOf r'.core))
    {evs : List Event} (he : r'.events = r.events ++ evs) (hadd : ∀ ev ∈ evs, ∃ t b, ev = .added t b) :
    StepOK o c r' := by
  have hp : ∀ p : Event → Bool, (∀ t b, p (.added t b) = false) → r'.events.countP p = r.events.countP p := fun p hp => by
    rw [he, List.countP_append, (List.countP_eq_zero (l := evs)).mpr fun ev hev => ?_, Nat.add_zero]
    obtain ⟨t, b, rfl⟩ := hadd ev hev
    simp [hp]
  have hm : ∀ ev ∈ r'.events, (∀ t b, ev ≠ .added t b) → ev ∈ r.events := fun ev hev hne =>
    (List.mem_append.mp (he ▸ hev)).resolve_right fun h' => by obtain ⟨t, b, rfl⟩ := hadd ev h'; exact hne t b rfl
  exact ⟨hch, fun hf => h.nofreed (hm _ hf nofun), fun n => by rw [hp _ fun _ _ => rfl, hT]; exact h.countT n,
    fun n => by rw [hp _ fun _ _ => rfl, hD]; exact h.countD n, fun b => by have := h.ledger b; have := hl b; omega,
    fun hc => h.verdict (hm _ hc nofun)⟩

theorem finalizeHead_ok {o : Oracle} {c : Core} {r : Out} (h : StepOK o c r) : StepOK o c (finalizeHead o r) := by
  obtain ⟨hl, he, hcs⟩ := finalizeHead_cases o r
  have he := he.trans (List.append_nil _).symm
  obtain hc | ⟨e, es, h2, hc⟩ := hcs
  · exact h.extend (hc ▸ h.chains) (by simp [hc]) (by simp [hc]) (by simp [hc, hl]) he (by simp)
  · refine h.extend ?_ ?_ (by simp [hc]) ?_ he (by simp) <;> rw [hc]
    · exact ⟨(h2 ▸ h.chains.tr).setFinal, h.chains.disp⟩
    · simp [h2, cached_setFinal]
    · simp [hl, blocksOf, chainBlocks_cons, h2]

theorem compileString_ok (o : Oracle) {c : Core} (hc : CoreOK c) (n : Name) (ok grow : Bool) :
    StepOK o c (compileString o c n ok grow) := by
  have h := getTable_ok o hc (some n) (some n)
  obtain ⟨evs, he, hadd, hcs⟩ := compileString_cases o c n ok grow
  have hadd : ∀ ev ∈ evs, ∃ t b, ev = .added t b := fun ev hev => (hadd ev hev).imp fun t ht => ht.imp fun b hb => hb.1
  obtain ⟨hcore, hl⟩ | ⟨e, es, h2, _, hcore, hl⟩ := hcs
  · exact h.extend (hcore ▸ h.chains) (by simp [hcore]) (by simp [hcore]) (by simp [hcore, hl]) he hadd
  · have htr := h2 ▸ h.chains.tr
    rw [retarget_head htr.distinct] at hcore
    refine h.extend ?_ ?_ (by simp [hcore]) ?_ he hadd <;> rw [hcore]
    · exact ⟨htr.retarget, h.chains.disp.mono (Nat.le_succ _)⟩
    · simp [h2, cached, Entry.hit]
    · intro b
      simp [hl, blocksOf, chainBlocks_cons, h2, balance_append, occ_append, occ_cons, balance, delta_rel]
      omega

theorem StepOK.frame {o : Oracle} {c : Core} {r : Out} (hc : CoreOK c) (h1 : r.core.tr = c.tr) (h2 : r.core.disp = c.disp)
    (h3 : r.core.next = c.next) (h4 : r.events = [])
    (hl : ∀ b, balance b r.ledger + occ b (blocksOf c) = occ b (blocksOf r.core)) : StepOK o c r :=
  ⟨⟨h1 ▸ h3 ▸ hc.tr, h2 ▸ h3 ▸ hc.disp⟩, by simp [h4], by simp [h1, h4], by simp [h2, h4], hl, by simp [h4]⟩

/-- a request changes a slot only by putting a block behind it -/
def PairsOK : List Alloc.Slot → List Alloc.Slot → Prop
  | b :: bs, a :: as => (a = b ∨ a.alloc.isSome = true) ∧ PairsOK bs as
  | [], [] => True
  | _, _ => False

theorem balance_slotsEvents (b : Block) (k : Nat) {bs as : List Alloc.Slot} (h : PairsOK bs as) :
    balance b (slotsEvents k bs as) + occ b (slotBlocks k bs) = occ b (slotBlocks k as) := by
  induction bs generalizing k as with
  | nil => cases as <;> simp_all [PairsOK, slotsEvents, slotBlocks, balance]
  | cons x bs ih =>
    cases as with
    | nil => simp [PairsOK] at h
    | cons a as =>
      have := ih (k + 1) h.2
      simp only [slotsEvents, slotBlocks, slotEvents, balance_append, occ_append]
      by_cases hax : a = x
      · subst hax; simp [balance]; omega
      · have := balance_realloc b (.scratch k) x.alloc.isSome
        simp only [hax, h.1.resolve_left hax, if_true, if_false]
        omega

theorem slotRequest_ok (s : Alloc.Slot) (w : Int) : s.request w = s ∨ (s.request w).alloc.isSome = true := by
  unfold Alloc.Slot.request
  split
  · exact .inr rfl
  · exact .inl rfl

theorem request_pairs {e : Bool} {b : Alloc.Buf} {i : Nat} {sm dm : Int} {s a1 : Alloc.State} {sl : Alloc.Slot}
    (h : Alloc.request e b i sm dm s = some (a1, sl)) : PairsOK (slots (Alloc.forget e i s)) (slots a1) := by
  -- every arm of `Alloc.request` hands back `Alloc.forget e i s` with at most one slot replaced by a request on it
  cases b
  case passbuf =>
    match i, h with
    | 0, h | 1, h | 2, h => cases h; simp only [slots, PairsOK, slotRequest_ok, true_or, and_self]
    | n + 3, h => cases h
  all_goals cases h; simp only [slots, PairsOK, slotRequest_ok, true_or, and_self]

/-- hook H1 forgets sizes, not pointers -/
theorem slotBlocks_forget (e : Bool) (i : Nat) (s : Alloc.State) (k : Nat) :
    slotBlocks k (slots (Alloc.forget e i s)) = slotBlocks k (slots s) := by
  cases e <;> simp [Alloc.forget, slots, slotBlocks, Alloc.Slot.forget, apply_ite Alloc.Slot.alloc]

theorem scratch_frame (c : Core) (e : Bool) (b : Alloc.Buf) (i : Nat) (sm dm : Int) :
    (scratch c e b i sm dm).core.tr = c.tr ∧ (scratch c e b i sm dm).core.disp = c.disp ∧
    (scratch c e b i sm dm).core.next = c.next ∧ (scratch c e b i sm dm).events = [] ∧
    ∀ blk, balance blk (scratch c e b i sm dm).ledger + occ blk (blocksOf c) =
      occ blk (blocksOf (scratch c e b i sm dm).core) := by
  unfold scratch
  split
  · refine ⟨rfl, rfl, rfl, rfl, fun blk => ?_⟩
    have := balance_realloc blk (.scratch 8) c.wordBuf
    simp only [blocksOf, occ_append, if_true] at this ⊢
    omega
  · refine ⟨rfl, rfl, rfl, rfl, fun blk => ?_⟩
    have := balance_realloc blk (.scratch 9) c.emphBuf
    simp only [blocksOf, occ_append, if_true] at this ⊢
    omega
  · split
    · rename_i a1 sl hr
      refine ⟨rfl, rfl, rfl, rfl, fun blk => ?_⟩
      have := balance_slotsEvents blk 0 (request_pairs hr)
      simp only [blocksOf, occ_append, ← slotBlocks_forget e i c.alloc 0]
      omega
    · exact ⟨rfl, rfl, rfl, rfl, fun blk => by simp [balance]⟩

theorem stepCore_ok (o : Oracle) {c : Core} (hc : CoreOK c) (op : Op) : StepOK o c (stepCore o c op) := by
  cases op with
  | get t d f =>
    simp only [stepCore]
    split
    · exact finalizeHead_ok (getTable_ok o hc t d)
    · exact getTable_ok o hc t d
  | compileString n ok g => exact compileString_ok o hc n ok g
  | scratch e b i sm dm =>
    obtain ⟨h1, h2, h3, h4, hl⟩ := scratch_frame c e b i sm dm
    exact .frame hc h1 h2 h3 h4 hl
  | _ => exact .frame hc rfl rfl rfl rfl fun b => by simp [stepCore, balance]

theorem stepCore_isolation (o : Oracle) (c : Core) (op : Op) (n : Name) (hc : CoreOK c) (ha : op.avoids n = true) :
    tableOf (stepCore o c op).core.tr n = tableOf c.tr n ∧
    tableOf (stepCore o c op).core.disp n = tableOf c.disp n := by
  cases op with
  | get t d f =>
    simp only [Op.avoids, Bool.and_eq_true, bne_iff_ne, ne_eq] at ha
    have h := getTable_other o c t d n
    simp only [stepCore]
    split
    · obtain ⟨_, _, hcore | ⟨e, es, h2, hcore⟩⟩ := finalizeHead_cases o (getTable o c t d)
      · rw [hcore]; exact ⟨h.1 ha.1, h.2 ha.2⟩
      · rw [hcore, ← h.1 ha.1, ← h.2 ha.2, h2]
        exact ⟨tableOf_setFinal e es n, rfl⟩
    · exact ⟨h.1 ha.1, h.2 ha.2⟩
  | compileString m ok g =>
    simp only [Op.avoids, bne_iff_ne, ne_eq] at ha
    have hne : norm (some m) ≠ some n := fun h => ha (by simpa using norm_eq_some h)
    have h := getTable_other o c (some m) (some m) n
    obtain ⟨_, _, _, ⟨hcore, _⟩ | ⟨e, es, h2, hm, hcore, _⟩⟩ := compileString_cases o c m ok g
    · simp only [stepCore, hcore]; exact ⟨h.1 hne, h.2 hne⟩
    · -- the table that moves belongs to the head entry only, and that entry answers to `m`
      have hen : e.hit n = false := Bool.eq_false_iff.mpr fun hn => ha (hit_inj hm hn)
      rw [retarget_head (h2 ▸ ((getTable_ok o hc (some m) (some m)).chains.tr).distinct)] at hcore
      simp only [stepCore, hcore, ← h.1 hne, ← h.2 hne, h2, and_true]
      rw [tableOf_cons_of_hit_false es hen]
      exact tableOf_cons_of_hit_false es hen  -- `hit` does not read `table`
  | scratch e b i sm dm =>
    obtain ⟨h1, h2, _⟩ := scratch_frame c e b i sm dm
    simp only [stepCore, h1, h2, and_self]
  | _ => exact ⟨rfl, rfl⟩

structure Inv (o : Oracle) (s : State) : Prop where
  chains : CoreOK s.core
  count : ∀ n, epochCount (isTrCompiled n) s.log = b2n (cached s.core.tr n) ∧
               epochCount (isDispCompiled n) s.log = b2n (cached s.core.disp n)
  ledger : ∀ b, balance b s.ledger = occ b (blocks s)
  verdict : ∀ {t d ok}, Event.compile t d ok ∈ s.log → ok = o.compiles t d

theorem init_coreOK : CoreOK {} :=
  ⟨⟨nofun, .nil, nofun⟩, ⟨nofun, .nil, nofun⟩⟩

theorem init_inv (o : Oracle) : Inv o State.init :=
  ⟨init_coreOK, fun _ => ⟨rfl, rfl⟩, fun _ => rfl, nofun⟩

theorem step_inv (o : Oracle) (s : State) (op : Op) (h : Inv o s) : Inv o (step o s op).1 := by
  have core : ∀ r, StepOK o s.core r →
      Inv o { s with core := r.core, ledger := s.ledger ++ r.ledger, log := s.log ++ r.events } := fun r hr => by
    refine ⟨hr.chains, fun n => ?_, fun b => ?_, fun hm => ?_⟩
    · have := hr.countT n; have := hr.countD n; have := h.count n
      simp only [epochCount_append hr.nofreed]; omega
    · have := hr.ledger b; have := h.ledger b
      simp only [blocks, occ_append, balance_append] at *; omega
    · exact (List.mem_append.mp hm).elim h.verdict hr.verdict
  cases op with
  | pool back =>
    obtain ⟨-, -, -, hs | ⟨hp, hs⟩ | ⟨hp, hs⟩⟩ := step_pool o s back
    -- flag up: nothing happens
    · rw [hs]
      exact h
    -- flag down: the header is acquired and the flag goes up, so in `blocks` its `[]` becomes `[header]`
    all_goals
      rw [hs]
      refine ⟨h.chains, h.count, fun b => ?_, h.verdict⟩
      have := h.ledger b
      simp only [blocks, occ_append, balance_append, hp, Bool.false_eq_true, if_false, if_true, occ_nil] at this ⊢
      change _ + occ b [_] = _
      omega
  | free =>
    refine ⟨init_coreOK, fun n => ?_, fun b => ?_, fun hm => ?_⟩
    · simp [step, epochCount_snoc, cached, b2n]
    · have := h.ledger b
      simp only [step, blocks, balance_append, freeEvents_eq, balance_map_rel, occ_append] at *
      have : occ b (blocksOf {}) = 0 := rfl
      omega
    · exact h.verdict (by simpa [step] using hm)
  | _ => exact core _ (stepCore_ok o h.chains _)

/-- `compileTable` is asked for both roles of one list -/
def Diag : Event → Prop
  | .compile t d _ => t = d ∧ t.isSome = true
  | _ => True

/-- while every compilation was for both roles of one list, the two chains hold the same names: they have been
    compiled equally often (`Inv.count`) -/
theorem Inv.pub {o : Oracle} {s : State} (h : Inv o s) (hd : ∀ ev ∈ s.log, Diag ev) (n : Name) :
    cached s.core.tr n = cached s.core.disp n := by
  have hc := h.count n
  rw [epochCount_congr (isTrCompiled n) (isDispCompiled n) s.log fun ev hev => ?_] at hc
  · have : b2n (cached s.core.tr n) = b2n (cached s.core.disp n) := hc.1.symm.trans hc.2
    revert this
    cases cached s.core.tr n <;> cases cached s.core.disp n <;> decide
  · cases ev with
    | compile t d ok =>
      obtain ⟨rfl, _⟩ := hd _ hev
      cases t <;> cases ok <;> rfl
    | _ => rfl

theorem stepCore_diag (o : Oracle) (c : Core) (op : Op) (hp : op.isPublic = true)
    (h : ∀ n, cached c.tr n = cached c.disp n) : ∀ ev ∈ (stepCore o c op).events, Diag ev := by
  have get : ∀ a, ∀ ev ∈ (getTable o c (some a) (some a)).events, Diag ev := fun a ev hev => by
    rw [getTable_eq, show (fun n => !cached c.disp n) = fun n => !cached c.tr n from funext fun n => by rw [h n]] at hev
    generalize (norm (some a)).filter _ = w at hev
    cases w <;> simp_all [Diag]
  cases op with
  | get t d f =>
    obtain ⟨a, rfl, rfl, rfl⟩ : ∃ a, t = some a ∧ d = some a ∧ f = true := by
      cases t <;> cases d <;> cases f <;> simp_all [Op.isPublic]
    simp only [stepCore, if_true, (finalizeHead_cases o _).2.1]
    exact get a
  | compileString n ok g =>
    obtain ⟨evs, he, hadd, _⟩ := compileString_cases o c n ok g
    intro ev hev
    simp only [stepCore, he, List.mem_append] at hev
    rcases hev with hev | hev
    · exact get n ev hev
    · obtain ⟨t, b, rfl, _⟩ := hadd ev hev; trivial
  | scratch e b i sm dm => simp [stepCore, (scratch_frame c e b i sm dm).2.2.2.1]
  | _ => simp [stepCore]

theorem step_diag (o : Oracle) (s : State) (op : Op) (hp : op.isPublic = true) (hi : Inv o s)
    (h : ∀ ev ∈ s.log, Diag ev) : ∀ ev ∈ (step o s op).1.log, Diag ev := by
  cases op with
  | pool b => rw [(step_pool o s b).2.2.1]; exact h
  | free =>
    intro ev hev
    simp only [step, List.mem_append, List.mem_singleton] at hev
    rcases hev with hev | rfl
    · exact h ev hev
    · trivial
  | _ =>
    exact fun ev hev => (List.mem_append.mp hev).elim (h ev) (stepCore_diag o s.core _ hp (hi.pub h) ev)

theorem run_inv (o : Oracle) (h : List Op) : Inv o (run o State.init h).1 :=
  run_induction h (fun s op _ => step_inv o s op) (init_inv o)

end Lou.Cache
