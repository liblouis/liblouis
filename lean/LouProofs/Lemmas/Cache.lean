/-
  What the functions of `LouModel/Cache.lean` do, as the proofs of C14 use them.

  What a chain `c` tells a caller about a name `n` is a function of `c.find? (·.hit n)`, which move-to-front keeps for
  every name (`find_look`).  `getTable` is written as one record (`getTable_eq`); `finalizeTable` and
  `lou_compileString` are described by what they add to the result of their `getTable` (`finalizeHead_cases`,
  `compileString_cases`).  Blocks are counted in the currency of the ledger (`occ`).  For entries as `getTable` creates
  them (`Entry.WF`, `ChainWF`) a hit is equality of names (`hit_iff`).
-/
import LouModel.Cache

namespace Lou.Cache

theorem hit_iff_take (e : Entry) (n : Name) : e.hit n = true ↔ n.length = e.len ∧ e.bytes.take n.length = n := by
  simp [Entry.hit, memEq]

theorem hit_inj {e : Entry} {n m : Name} (hn : e.hit n = true) (hm : e.hit m = true) : n = m := by
  obtain ⟨h1, h2⟩ := (hit_iff_take e n).mp hn
  obtain ⟨h3, h4⟩ := (hit_iff_take e m).mp hm
  rw [← h2, ← h4, h1, h3]

theorem take_eq_self_iff {a n : Name} : n.length = a.length ∧ a.take n.length = n ↔ a = n :=
  ⟨fun ⟨h1, h2⟩ => by rwa [h1, List.take_length] at h2, fun h => h ▸ ⟨rfl, List.take_length⟩⟩

theorem newEntry_hit (i : Nat) (m : Name) (t : Nat) (n : Name) : (newEntry i m t).hit n = decide (m = n) := by
  rw [Bool.eq_iff_iff, hit_iff_take, decide_eq_true_iff]
  simp only [newEntry, List.take_length]
  exact take_eq_self_iff

/-- entries as `getTable` creates them: the stored length is the length of the stored bytes -/
def Entry.WF (e : Entry) : Prop := e.len = e.bytes.length

theorem newEntry_wf (i : Nat) (n : Name) (t : Nat) : (newEntry i n t).WF := by
  simp [Entry.WF, newEntry]

theorem hit_iff (e : Entry) (n : Name) (h : e.WF) : e.hit n = true ↔ e.bytes = n := by
  rw [hit_iff_take, h]
  exact take_eq_self_iff

def ChainWF (c : List Entry) : Prop := ∀ e ∈ c, e.WF

theorem cached_iff (c : List Entry) (n : Name) (hwf : ChainWF c) :
    cached c n = true ↔ ∃ e ∈ c, e.bytes = n := by
  simp only [cached, List.any_eq_true]
  exact exists_congr fun e => and_congr_right fun he => hit_iff e n (hwf e he)

theorem split_cases (n : Name) (c : List Entry) :
    (split n c = none ∧ ∀ e ∈ c, e.hit n = false) ∨
    ∃ pre h suf, split n c = some (pre, h, suf) ∧ c = pre ++ h :: suf ∧ h.hit n = true ∧
      ∀ e ∈ pre, e.hit n = false := by
  induction c with
  | nil => exact .inl ⟨rfl, nofun⟩
  | cons e es ih =>
    rw [split]
    cases he : e.hit n
    · obtain ⟨hs, hm⟩ | ⟨pre, h, suf, hs, rfl, hh, hpre⟩ := ih
      · exact .inl ⟨by rw [hs]; rfl, List.forall_mem_cons.mpr ⟨he, hm⟩⟩
      · exact .inr ⟨e :: pre, h, suf, by rw [hs]; rfl, rfl, hh, List.forall_mem_cons.mpr ⟨he, hpre⟩⟩
    · exact .inr ⟨[], e, es, rfl, rfl, he, nofun⟩

theorem split_none (n : Name) (c : List Entry) : split n c = none ↔ ∀ e ∈ c, e.hit n = false := by
  obtain ⟨hs, hm⟩ | ⟨pre, h, suf, hs, rfl, hh, _⟩ := split_cases n c
  · exact iff_of_true hs hm
  · rw [hs]
    exact iff_of_false nofun fun hm => by rw [hm h (by simp)] at hh; cases hh

theorem lookup_cases (c : List Entry) (n : Name) :
    ((∀ e ∈ c, e.hit n = false) ∧ lookup c n = (none, c)) ∨
    ∃ pre h suf, c = pre ++ h :: suf ∧ h.hit n = true ∧ (∀ e ∈ pre, e.hit n = false) ∧
      lookup c n = (some h, h :: (pre ++ suf)) := by
  unfold lookup
  obtain ⟨hs, hm⟩ | ⟨pre, h, suf, hs, hc, hh, hpre⟩ := split_cases n c <;> rw [hs]
  · exact .inl ⟨hm, rfl⟩
  · exact .inr ⟨pre, h, suf, hc, hh, hpre, rfl⟩

theorem lookup_fst (c : List Entry) (n : Name) : (lookup c n).1 = c.find? (·.hit n) := by
  obtain ⟨hm, h⟩ | ⟨pre, x, suf, rfl, hx, hpre, h⟩ := lookup_cases c n <;> rw [h]
  · exact (List.find?_eq_none.mpr fun e he => by simp [hm e he]).symm
  · exact (List.find?_eq_some_iff_append (p := (·.hit n)).mpr ⟨hx, pre, suf, rfl, fun e he => by simp [hpre e he]⟩).symm

theorem lookup_head {c : List Entry} {n : Name} {h : Entry} (hh : (lookup c n).1 = some h) :
    ∃ tl, (lookup c n).2 = h :: tl := by
  obtain ⟨_, h'⟩ | ⟨pre, x, suf, rfl, _, _, h'⟩ := lookup_cases c n <;> rw [h'] at hh ⊢
  · cases hh
  · cases hh; exact ⟨_, rfl⟩

/-- Move-to-front loses no entry and duplicates none -/
theorem lookup_perm (c : List Entry) (n : Name) : (lookup c n).2.Perm c := by
  obtain ⟨_, h⟩ | ⟨pre, x, suf, rfl, _, _, h⟩ := lookup_cases c n
  · rw [h]
  · rw [h]; exact List.perm_middle.symm

theorem lookup_mem (c : List Entry) (n : Name) (e : Entry) : e ∈ (lookup c n).2 ↔ e ∈ c :=
  (lookup_perm c n).mem_iff

theorem find_lookup (c : List Entry) (m n : Name) :
    (lookup c m).2.find? (·.hit n) = c.find? (·.hit n) := by
  obtain ⟨_, h⟩ | ⟨pre, x, suf, rfl, hx, hpre, h⟩ := lookup_cases c m
  · rw [h]
  · rw [h]
    by_cases hn : x.hit n = true
    · -- `x` is found under `n` as well: then `n = m` and nothing before `x` matches
      obtain rfl := hit_inj hn hx
      have : pre.find? (·.hit n) = none := List.find?_eq_none.mpr fun y hy => by simp [hpre y hy]
      simp [List.find?_append, this, hn]
    · simp [List.find?_append, List.find?_cons_of_neg, hn]

theorem cached_eq_find (c : List Entry) (n : Name) : cached c n = (c.find? (·.hit n)).isSome := by
  rw [Bool.eq_iff_iff, List.find?_isSome]; simp [cached]

theorem cached_perm {c c' : List Entry} (p : c'.Perm c) (n : Name) : cached c' n = cached c n :=
  p.any_eq

theorem cached_setFinal (e : Entry) (es : List Entry) (n : Name) :
    cached ({ e with finalized := true } :: es) n = cached (e :: es) n := by
  simp [cached, Entry.hit]

theorem tableOf_setFinal (e : Entry) (es : List Entry) (n : Name) :
    tableOf ({ e with finalized := true } :: es) n = tableOf (e :: es) n := by
  simp only [tableOf, List.find?_cons, Entry.hit]; split <;> rfl

theorem cached_retarget (a a' : Nat) (c : List Entry) (n : Name) : cached (retarget a a' c) n = cached c n := by
  simp only [cached, retarget, List.any_map]
  congr 1; funext e; simp only [Function.comp]; split <;> rfl

theorem cached_eq_tableOf (c : List Entry) (n : Name) : cached c n = (tableOf c n).isSome := by
  rw [cached_eq_find, tableOf, Option.isSome_map]

theorem lookup_isSome (c : List Entry) (n : Name) : (lookup c n).1.isSome = cached c n := by
  rw [lookup_fst, cached_eq_find]

theorem tableOf_cons_of_hit_false {e : Entry} (es : List Entry) {n : Name} (h : e.hit n = false) :
    tableOf (e :: es) n = tableOf es n := by
  simp [tableOf, h]

theorem norm_eq_some {l : Option Name} {m : Name} (h : norm l = some m) : l = some m := by
  unfold norm at h; split at h <;> simp_all

theorem find_look (c : List Entry) (l : Option Name) (n : Name) :
    (look c l).2.find? (·.hit n) = c.find? (·.hit n) := by
  cases l with
  | none => rfl
  | some m => exact find_lookup c m n

theorem look_perm (c : List Entry) (l : Option Name) : (look c l).2.Perm c := by
  cases l with
  | none => exact List.Perm.refl _
  | some n => exact lookup_perm c n

theorem tableOf_look (c : List Entry) (l : Option Name) (n : Name) : tableOf (look c l).2 n = tableOf c n := by
  simp only [tableOf, find_look]

theorem want_look (c : List Entry) (l : Option Name) :
    want (look c l).1 l = l.filter (!cached c ·) := by
  cases l with
  | none => rfl
  | some n =>
    simp only [look, lookup_fst, cached_eq_find, want, Option.filter]
    cases c.find? (·.hit n) <;> rfl

theorem want_some (c : List Entry) (l : Option Name) (n : Name) (h : want (look c l).1 l = some n) :
    l = some n ∧ cached c n = false := by
  simpa [want_look] using h

theorem want_cached (c : List Entry) (n : Name) (hc : cached c n = true) :
    want (look c (some n)).1 (some n) = none := by
  simp [want_look, Option.filter, hc]

theorem want_none (c : List Entry) (n : Name) (h : want (look c (some n)).1 (some n) = none) :
    cached c n = true := by
  simpa [want_look] using h

theorem find_push (c : List Entry) (w : Option Name) (i t : Nat) (n : Name) :
    (push c w i t).find? (·.hit n) = if w = some n then some (newEntry i n t) else c.find? (·.hit n) := by
  cases w with
  | none => simp [push]
  | some m =>
    simp only [push, List.find?_cons, newEntry_hit, Option.some.injEq]
    by_cases h : m = n <;> simp [h]

theorem cached_push (c : List Entry) (w : Option Name) (i t : Nat) (n : Name) :
    cached (push c w i t) n = (decide (w = some n) || cached c n) := by
  rw [cached_eq_find, cached_eq_find, find_push]; split <;> simp [*]

theorem tableOf_push (c : List Entry) (w : Option Name) (i t : Nat) (n : Name) :
    tableOf (push c w i t) n = if w = some n then some t else tableOf c n := by
  simp only [tableOf, find_push]; split <;> rfl

/-- the shape of `iT`, `iD` in `getTable_eq`: what `getTable` inserts for a role is what was asked for -/
theorem ite_filter_eq_some {l : Option Name} {p : Name → Bool} {ok : Bool} {n : Name}
    (h : (if ok then l.filter p else none) = some n) : l = some n := by
  cases ok
  · cases h
  · exact (Option.filter_eq_some_iff.mp h).1

theorem tableOf_look_push (c : List Entry) (l w : Option Name) (i t : Nat) (n : Name) :
    tableOf (push (look c l).2 w i t) n = if w = some n then some t else tableOf c n := by
  rw [tableOf_push, tableOf_look]

theorem cached_look_push (c : List Entry) (l w : Option Name) (i t : Nat) (n : Name) :
    cached (push (look c l).2 w i t) n = (decide (w = some n) || cached c n) := by
  rw [cached_push, cached_perm (look_perm c l)]

/-- `push _ none` and `onlyIf none _` do nothing, so the three branches of the definition collapse into one record -/
theorem getTable_eq (o : Oracle) (c : Core) (trL dispL : Option Name) :
    getTable o c trL dispL =
      let tl := look c.tr (norm trL)
      let dl := look c.disp (norm dispL)
      let wT := (norm trL).filter (!cached c.tr ·)
      let wD := (norm dispL).filter (!cached c.disp ·)
      let ok := o.compiles wT wD
      let iT := if ok then wT else none
      let iD := if ok then wD else none
      let a := c.next
      { core := { c with tr := push tl.2 iT (a + 2) a, disp := push dl.2 iD (a + 3) (a + 1),
                         next := if wT.isNone && wD.isNone then a else a + 4 },
        res := { tr := if iT.isSome then some a else tl.1.map (·.table),
                 disp := if iD.isSome then some (a + 1) else dl.1.map (·.table) },
        ledger := (onlyIf wT (.acq (.trTable a)) ++ onlyIf wD (.acq (.dispTable (a + 1)))) ++
          (onlyIf wT (if ok then .acq (.trEntry (a + 2)) else .rel (.trTable a)) ++
           onlyIf wD (if ok then .acq (.dispEntry (a + 3)) else .rel (.dispTable (a + 1)))),
        events := if wT.isNone && wD.isNone then [] else [.compile wT wD ok] } := by
  unfold getTable
  simp only [want_look]
  generalize (norm trL).filter (!cached c.tr ·) = wT
  generalize (norm dispL).filter (!cached c.disp ·) = wD
  cases wT <;> cases wD <;> cases o.compiles _ _ <;> rfl

/-- why `finalizeHead` and `compileString` may take the entry of the table handed back (where the model keeps
    `table->finalized`) off the head of the chain -/
theorem getTable_head (o : Oracle) (c : Core) (m : Name) (dispL : Option Name) (a : Nat)
    (h : (getTable o c (some m) dispL).res.tr = some a) :
    ∃ e es, (getTable o c (some m) dispL).core.tr = e :: es ∧ e.table = a ∧ e.hit m = true := by
  rw [getTable_eq] at h ⊢
  dsimp only at h ⊢
  generalize o.compiles _ _ = ok at h ⊢
  generalize hi : (if ok = true then (norm (some m)).filter (!cached c.tr ·) else none) = iT at h ⊢
  cases iT with
  | some m' =>
    -- a new entry was inserted: it is the one for `m`
    obtain rfl : m = m' := by simpa using norm_eq_some (ite_filter_eq_some hi)
    exact ⟨_, _, rfl, by simpa [newEntry] using h, by simp [newEntry_hit]⟩
  | none =>
    -- the lookup found an entry and brought it to the front
    obtain ⟨e, he, rfl⟩ : ∃ e, (look c.tr (norm (some m))).1 = some e ∧ e.table = a := by simpa using h
    have hn : norm (some m) = some m := by cases m <;> simp_all [norm, look]
    rw [hn] at he ⊢
    obtain ⟨tl, htl⟩ := lookup_head he
    exact ⟨e, tl, htl, rfl, List.find?_some (p := fun x : Entry => x.hit m) (lookup_fst c.tr m ▸ he)⟩

theorem getTable_other (o : Oracle) (c : Core) (trL dispL : Option Name) (n : Name) :
    (norm trL ≠ some n → tableOf (getTable o c trL dispL).core.tr n = tableOf c.tr n) ∧
    (norm dispL ≠ some n → tableOf (getTable o c trL dispL).core.disp n = tableOf c.disp n) := by
  rw [getTable_eq]
  exact ⟨fun h => by rw [tableOf_look_push, if_neg fun hi => h (ite_filter_eq_some hi)],
    fun h => by rw [tableOf_look_push, if_neg fun hi => h (ite_filter_eq_some hi)]⟩

theorem finalizeHead_cases (o : Oracle) (r : Out) :
    (finalizeHead o r).ledger = r.ledger ∧ (finalizeHead o r).events = r.events ∧
    ((finalizeHead o r).core = r.core ∨
     ∃ e es, r.core.tr = e :: es ∧ (finalizeHead o r).core = { r.core with tr := { e with finalized := true } :: es }) := by
  unfold finalizeHead
  split
  · rename_i e es _ h
    cases e.finalized
    · cases o.finalizes e.bytes
      · exact ⟨rfl, rfl, .inl rfl⟩
      · exact ⟨rfl, rfl, .inr ⟨_, _, h, rfl⟩⟩
    · exact ⟨rfl, rfl, .inl rfl⟩
  · exact ⟨rfl, rfl, .inl rfl⟩

theorem compileString_cases (o : Oracle) (c : Core) (n : Name) (ok grow : Bool) :
    let r := getTable o c (some n) (some n)
    let r' := compileString o c n ok grow
    ∃ evs, r'.events = r.events ++ evs ∧ (∀ ev ∈ evs, ∃ t b, ev = .added t b ∧ tableOf r'.core.tr n = some t) ∧
      ((r'.core = r.core ∧ r'.ledger = r.ledger) ∨
       ∃ e es, r.core.tr = e :: es ∧ e.hit n = true ∧
        r'.core = { r.core with tr := retarget e.table r.core.next (e :: es), next := r.core.next + 1 } ∧
        r'.ledger = r.ledger ++ [.rel (.trTable e.table), .acq (.trTable r.core.next)]) := by
  have hh := getTable_head o c n (some n)
  unfold compileString
  generalize getTable o c (some n) (some n) = r at *
  dsimp only
  split
  · rename_i a e es h1 h2
    obtain ⟨e', es', h3, rfl, h5⟩ := hh a h1
    obtain ⟨rfl, rfl⟩ := List.cons.inj (h2.symm.trans h3)
    have hf : tableOf r.core.tr n = some e.table := by rw [h2]; simp [tableOf, h5]
    cases e.finalized
    · cases grow
      · exact ⟨[.added e.table ok], rfl, fun ev hev => ⟨_, _, List.mem_singleton.mp hev, hf⟩, .inl ⟨rfl, rfl⟩⟩
      · refine ⟨[.added r.core.next ok], rfl, fun ev hev => ⟨_, _, List.mem_singleton.mp hev, ?_⟩,
          .inr ⟨e, es, h2, h5, rfl, rfl⟩⟩
        have : ({ e with table := r.core.next } : Entry).hit n = true := h5
        simp [tableOf, retarget, this]
    · exact ⟨[.added e.table false], rfl, fun ev hev => ⟨_, _, List.mem_singleton.mp hev, hf⟩, .inl ⟨rfl, rfl⟩⟩
  · exact ⟨[], by simp, by simp, .inl ⟨rfl, rfl⟩⟩

theorem balance_append (b : Block) (l1 l2 : List LedgerEv) :
    balance b (l1 ++ l2) = balance b l1 + balance b l2 := by
  induction l1 with
  | nil => simp [balance]
  | cons e es ih => simp [balance, ih]; omega

theorem balance_onlyIf (b : Block) (w : Option Name) (ev : LedgerEv) :
    balance b (onlyIf w ev) = if w.isSome then delta b ev else 0 := by
  unfold onlyIf; split <;> simp [balance]

theorem delta_rel (b x : Block) : delta b (.rel x) = - delta b (.acq x) := by
  simp only [delta]; split <;> rfl

/-- how often `b` occurs in a list of blocks, counted as `balance` counts acquisitions -/
def occ (b : Block) (l : List Block) : Int := balance b (l.map .acq)

theorem occ_nil (b : Block) : occ b [] = 0 := rfl

theorem occ_cons (b x : Block) (l : List Block) : occ b (x :: l) = delta b (.acq x) + occ b l := rfl

theorem occ_ite (b x : Block) (p : Bool) : occ b (if p then [x] else []) = if p then delta b (.acq x) else 0 := by
  cases p <;> simp [occ, balance]

theorem occ_append (b : Block) (l1 l2 : List Block) : occ b (l1 ++ l2) = occ b l1 + occ b l2 := by
  simp only [occ, List.map_append, balance_append]

theorem balance_map_rel (b : Block) (l : List Block) : balance b (l.map .rel) = - occ b l := by
  induction l with
  | nil => rfl
  | cons x l ih => simp only [List.map_cons, balance, occ_cons, delta_rel, ih]; omega

theorem occ_perm {l l' : List Block} (p : l.Perm l') (b : Block) : occ b l = occ b l' := by
  induction p with
  | nil => rfl
  | cons x _ ih => simp only [occ_cons, ih]
  | swap x y l => simp only [occ_cons]; omega
  | trans _ _ ih1 ih2 => rw [ih1, ih2]

/-- what `getTable` books for one role (the table; then the entry, or the table back), against the two blocks of
    the entry it inserts -/
theorem role_balance (b : Block) (w : Option Name) (ok : Bool) (T E : Block) :
    balance b (onlyIf w (.acq T)) + balance b (onlyIf w (if ok then .acq E else .rel T)) =
      if (if ok then w else none).isSome then delta b (.acq T) + delta b (.acq E) else 0 := by
  cases w <;> cases ok <;> simp [balance_onlyIf, delta_rel] <;> omega

/-- `if (p) free(p); p = malloc(..)`: whatever was there before, one block is there afterwards -/
theorem balance_realloc (b x : Block) (p : Bool) :
    balance b ((if p then [.rel x] else []) ++ [.acq x]) + occ b (if p then [x] else []) = occ b [x] := by
  cases p <;> simp [balance, occ, delta_rel] <;> omega

theorem isTrCompiled_iff {n : Name} {ev : Event} :
    isTrCompiled n ev = true ↔ ∃ d, ev = .compile (some n) d true := by
  unfold isTrCompiled; split <;> simp_all

theorem epochCount_append {p : Event → Bool} {l evs : List Event} (h : Event.freed ∉ evs) :
    epochCount p (l ++ evs) = epochCount p l + evs.countP p := by
  simp only [epochCount, List.foldl_append]
  generalize List.foldl _ 0 l = acc
  induction evs generalizing acc with
  | nil => rfl
  | cons e es ih =>
    have he : e ≠ .freed := fun he => h (by simp [he])
    rw [List.foldl_cons, ih (fun hm => h (by simp [hm])), List.countP_cons, if_neg he]
    split <;> omega

theorem epochCount_snoc (p : Event → Bool) (l : List Event) (ev : Event) :
    epochCount p (l ++ [ev]) = if ev = .freed then 0 else if p ev then epochCount p l + 1 else epochCount p l := by
  simp [epochCount, List.foldl_append]

theorem epochCount_congr (p q : Event → Bool) (log : List Event) (h : ∀ ev ∈ log, p ev = q ev) :
    epochCount p log = epochCount q log := by
  suffices ∀ acc, log.foldl (fun acc ev => if ev = .freed then 0 else if p ev then acc + 1 else acc) acc =
      log.foldl (fun acc ev => if ev = .freed then 0 else if q ev then acc + 1 else acc) acc from this 0
  induction log with
  | nil => exact fun _ => rfl
  | cons e es ih =>
    intro acc
    rw [List.foldl_cons, List.foldl_cons, h e (by simp)]
    exact ih (fun x hx => h x (by simp [hx])) _

theorem epochCount_eq_zero {p : Event → Bool} {log : List Event} (h : ∀ ev ∈ log, p ev = false) :
    epochCount p log = 0 :=
  List.foldlRecOn (motive := (· = 0)) log _ rfl fun acc hacc ev hev => by simp [hacc, h ev hev]

theorem epochCount_false (log : List Event) : epochCount (fun _ => false) log = 0 :=
  epochCount_eq_zero fun _ _ => rfl

/-- which of the last two cases `back` selects is not said: what the users need is that flag and header go together -/
theorem step_pool (o : Oracle) (s : State) (back : Bool) :
    (step o s (.pool back)).2 = {} ∧ (step o s (.pool back)).1.core = s.core ∧ (step o s (.pool back)).1.log = s.log ∧
    ((step o s (.pool back)).1 = s ∨
     (s.fwdPool = false ∧
      (step o s (.pool back)).1 = { s with fwdPool := true, ledger := s.ledger ++ [.acq .fwdPool] }) ∨
     (s.bwdPool = false ∧
      (step o s (.pool back)).1 = { s with bwdPool := true, ledger := s.ledger ++ [.acq .bwdPool] })) := by
  cases back
  · simp only [step]
    split
    · exact ⟨rfl, rfl, rfl, .inl rfl⟩
    next hp => exact ⟨rfl, rfl, rfl, .inr (.inl ⟨Bool.eq_false_iff.mpr hp, rfl⟩)⟩
  · simp only [step]
    split
    · exact ⟨rfl, rfl, rfl, .inl rfl⟩
    next hp => exact ⟨rfl, rfl, rfl, .inr (.inr ⟨Bool.eq_false_iff.mpr hp, rfl⟩)⟩

theorem run_induction {P : State → Prop} {o : Oracle} :
    ∀ (h : List Op) {s : State}, (∀ s, ∀ op ∈ h, P s → P (step o s op).1) → P s → P (run o s h).1
  | [], _, _, hs => hs
  | op :: ops, _, hstep, hs =>
    run_induction ops (fun s op' hop => hstep s op' (by simp [hop])) (hstep _ op (by simp) hs)

theorem step_core_only (o : Oracle) (s s' : State) (op : Op) (h : s.core = s'.core) :
    (step o s op).2 = (step o s' op).2 ∧ (step o s op).1.core = (step o s' op).1.core ∧
    ∃ evs, (step o s op).1.log = s.log ++ evs ∧ (step o s' op).1.log = s'.log ++ evs := by
  cases op with
  | pool b =>
    obtain ⟨h1, h2, h3, -⟩ := step_pool o s b
    obtain ⟨h1', h2', h3', -⟩ := step_pool o s' b
    exact ⟨h1.trans h1'.symm, by rw [h2, h2', h], [], by rw [h3, List.append_nil], by rw [h3', List.append_nil]⟩
  | free => exact ⟨rfl, rfl, [.freed], rfl, rfl⟩
  | _ => simp only [step, h]; exact ⟨trivial, trivial, _, rfl, rfl⟩

theorem run_core_only (o : Oracle) (h : List Op) : ∀ (s s' : State), s.core = s'.core →
    (run o s h).2 = (run o s' h).2 ∧
    ∃ evs, (run o s h).1.log = s.log ++ evs ∧ (run o s' h).1.log = s'.log ++ evs := by
  induction h with
  | nil => intro s s' _; exact ⟨rfl, [], by simp [run], by simp [run]⟩
  | cons op ops ih =>
    intro s s' hc
    obtain ⟨h1, h2, evs, h3, h4⟩ := step_core_only o s s' op hc
    obtain ⟨h5, evs', h6, h7⟩ := ih _ _ h2
    refine ⟨by simp only [run, h1, h5], evs ++ evs', ?_, ?_⟩
    · simp only [run]; rw [h6, h3, List.append_assoc]
    · simp only [run]; rw [h7, h4, List.append_assoc]

end Lou.Cache
