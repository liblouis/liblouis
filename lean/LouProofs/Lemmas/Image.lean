/-
  The table image (`LouModel/Image.lean`) as the theorems of C12 use it.

  The bump allocator: the invariant `ArenaWF` and what one reservation or allocation does to it (`reserve_wf`, `alloc_wf`,
  `step_wf`).  The image checker: its index answers only with what was entered (`index_get_sound`); `objsOK` and
  `refProblem` read as propositions.  The table checker: its Boolean list tests as `Pairwise` / `Nodup`; `Res t i r`, index
  `i` designates rule `r`, with what the checker's index (`res_sound`, `res_complete`) and `Table.rule?` (`res_of_rule?`,
  `rule?_of_res`) say of it; a test over the resolved chain as a statement about every designated rule
  (`chainAll_of_check`, `chainOrdered_of_check`, `optAll_of_check`); the Boolean orders against `Chain.le`, `CharLe`, `PassLe`.
-/
import LouModel.Image
import LouProofs.Lemmas.Table
import LouProofs.Lemmas.Chain

namespace Lou.C12
open Lou Lou.Gen Lou.Compile Lou.Image

theorem ceil8_ge (n : Nat) : n ≤ ceil8 n := by unfold ceil8; omega
theorem ceil8_mod (n : Nat) : ceil8 n % 8 = 0 := by unfold ceil8; omega

structure ArenaWF (a : Arena) : Prop where
  hsAligned : a.headerSize % 8 = 0
  usedAligned : a.bytesUsed % 8 = 0
  usedLo : a.headerSize + 8 ≤ a.bytesUsed
  usedHi : a.bytesUsed ≤ a.tableSize
  /-- every object: offset ≥ 1, 8-aligned, inside the used part, at least as long as requested -/
  inside : ∀ o ∈ a.objs, 1 ≤ o.off ∧ o.start a.headerSize % 8 = 0 ∧ a.headerSize + 8 ≤ o.start a.headerSize ∧
    o.start a.headerSize + o.size ≤ o.stop a.headerSize ∧ o.stop a.headerSize ≤ a.bytesUsed
  /-- pairwise disjoint: the list is most-recent-first, every earlier object ends before a later one starts -/
  disjoint : a.objs.Pairwise (fun later earlier => earlier.stop a.headerSize ≤ later.start a.headerSize)

theorem reserve_fields (a : Arena) (s : Nat) :
    (a.reserve s).headerSize = a.headerSize ∧ (a.reserve s).bytesUsed = a.bytesUsed ∧ (a.reserve s).objs = a.objs ∧
    a.tableSize ≤ (a.reserve s).tableSize ∧ a.bytesUsed + ceil8 s ≤ (a.reserve s).tableSize := by
  unfold Arena.reserve
  dsimp only
  split
  · refine ⟨rfl, rfl, rfl, ?_, ?_⟩ <;> dsimp only <;> omega
  · refine ⟨rfl, rfl, rfl, Nat.le_refl _, ?_⟩; omega

theorem reserve_wf (a : Arena) (s : Nat) (h : ArenaWF a) : ArenaWF (a.reserve s) := by
  obtain ⟨e1, e2, e3, e4, _⟩ := reserve_fields a s
  refine ⟨?_, ?_, ?_, ?_, ?_, ?_⟩
  · rw [e1]; exact h.hsAligned
  · rw [e2]; exact h.usedAligned
  · rw [e1, e2]; exact h.usedLo
  · rw [e2]; exact Nat.le_trans h.usedHi e4
  · rw [e1, e2, e3]; exact h.inside
  · rw [e1, e3]; exact h.disjoint

theorem alloc_fields (a : Arena) (s : Nat) :
    (a.alloc s).1.headerSize = a.headerSize ∧ (a.alloc s).1.bytesUsed = a.bytesUsed + ceil8 s ∧
    (a.alloc s).1.objs = { off := (a.bytesUsed - a.headerSize) / 8, size := s } :: a.objs ∧
    (a.alloc s).2 = (a.bytesUsed - a.headerSize) / 8 ∧
    a.bytesUsed + ceil8 s ≤ (a.alloc s).1.tableSize ∧ a.tableSize ≤ (a.alloc s).1.tableSize := by
  obtain ⟨e1, e2, e3, e4, e5⟩ := reserve_fields a s
  unfold Arena.alloc
  dsimp only
  rw [e1, e2, e3]
  exact ⟨rfl, rfl, rfl, rfl, e5, e4⟩

theorem next_off (a : Arena) (h : ArenaWF a) :
    a.headerSize + 8 * ((a.bytesUsed - a.headerSize) / 8) = a.bytesUsed ∧ 1 ≤ (a.bytesUsed - a.headerSize) / 8 := by
  have := h.hsAligned
  have := h.usedAligned
  have := h.usedLo
  omega

theorem alloc_wf (a : Arena) (s : Nat) (h : ArenaWF a) :
    ArenaWF (a.alloc s).1 ∧ 1 ≤ (a.alloc s).2 ∧ (∃ o, (a.alloc s).1.objs = o :: a.objs ∧ o.off = (a.alloc s).2 ∧ o.size = s) := by
  obtain ⟨e1, e2, e3, e4, e5, _⟩ := alloc_fields a s
  obtain ⟨hstart, hoff⟩ := next_off a h
  rw [e4]
  refine ⟨⟨e1 ▸ h.hsAligned, ?_, ?_, e2 ▸ e5, ?_, ?_⟩, hoff, _, e3, rfl, rfl⟩
  · rw [e2, Nat.add_mod, h.usedAligned, ceil8_mod]
  · rw [e1, e2]; exact Nat.le_trans h.usedLo (Nat.le_add_right _ _)
  · rw [e1, e2, e3]
    intro o ho
    rcases List.mem_cons.mp ho with rfl | ho
    · -- the new object begins where the used part ended
      unfold Obj.stop Obj.start
      rw [hstart]
      exact ⟨hoff, h.usedAligned, h.usedLo, Nat.add_le_add_left (ceil8_ge s) _, Nat.le_refl _⟩
    · obtain ⟨a1, a2, a3, a4, a5⟩ := h.inside o ho
      exact ⟨a1, a2, a3, a4, Nat.le_trans a5 (Nat.le_add_right _ _)⟩
  · rw [e1, e3]
    refine List.pairwise_cons.mpr ⟨fun o ho => ?_, h.disjoint⟩
    unfold Obj.start
    rw [hstart]
    exact (h.inside o ho).2.2.2.2

theorem step_wf (a : Arena) (e : Ev) (h : ArenaWF a) :
    ArenaWF (a.step e) ∧ (a.step e).headerSize = a.headerSize ∧ ∃ newer, (a.step e).objs = newer ++ a.objs := by
  cases e with
  | alloc s =>
    obtain ⟨w, _, o, ho, _⟩ := alloc_wf a s h
    exact ⟨w, (alloc_fields a s).1, [o], ho⟩
  | reserve s =>
    exact ⟨reserve_wf a s h, (reserve_fields a s).1, [], (reserve_fields a s).2.2.1⟩

theorem index_get_sound {α : Type} {n : Nat} {l : List (Nat × α)} {k : Nat} {v : α}
    (h : Index.get (Index.build n l) k = some v) : (k, v) ∈ l := by
  have inv : ∀ (j : Nat) kv, (Index.build n l)[j]? = some (some kv) → kv ∈ l := by
    refine List.foldlRecOn (motive := fun a => ∀ (j : Nat) kv, a[j]? = some (some kv) → kv ∈ l) l _ (fun j kv hj => ?_)
      fun a ha x hx j kv hj => ?_
    · rw [Array.getElem?_replicate] at hj
      split at hj <;> simp at hj
    · rw [Array.getElem?_setIfInBounds] at hj
      split at hj
      · split at hj
        · cases hj; exact hx
        · cases hj
      · exact ha j kv hj
  unfold Index.get at h
  split at h
  next kv hkv =>
    split at h
    next hk =>
      obtain rfl : kv.1 = k := by simpa using hk
      cases h
      exact inv _ kv hkv
    · cases h
  · cases h

theorem start_le_stop (hs : Nat) (o : Obj) : o.start hs ≤ o.stop hs := Nat.le_add_right _ _

theorem start_aligned {hs : Nat} {o : Obj} (h8 : hs % 8 = 0) (h : hs + 8 ≤ o.start hs) : o.start hs % 8 = 0 ∧ 1 ≤ o.off := by
  unfold Obj.start at *
  omega

theorem objsOK_sound (hs used : Nat) : ∀ (l : List Obj) (lo : Nat), objsOK hs used lo l = true →
    (∀ o ∈ l, lo ≤ o.start hs ∧ o.stop hs ≤ used) ∧ l.Pairwise (fun a b => a.stop hs ≤ b.start hs) := by
  intro l
  induction l with
  | nil => exact fun _ _ => ⟨nofun, .nil⟩
  | cons o rest ih =>
    intro lo h
    unfold objsOK at h
    simp only [Bool.and_eq_true, decide_eq_true_eq] at h
    obtain ⟨ihA, ihP⟩ := ih (o.stop hs) h.2
    refine ⟨fun x hx => ?_, List.pairwise_cons.mpr ⟨fun b hb => (ihA b hb).1, ihP⟩⟩
    rcases List.mem_cons.mp hx with rfl | hx
    · exact h.1
    · exact ⟨Nat.le_trans (Nat.le_trans h.1.1 (start_le_stop hs o)) (ihA x hx).1, (ihA x hx).2⟩

theorem of_ite_eq_nil {c : Prop} [Decidable c] {x : String} : (if c then ([] : List String) else [x]) = [] → c := by
  intro h; by_cases hc : c
  · exact hc
  · simp [hc] at h

theorem refProblem_none {ix : Array (Option (Nat × Nat))} {r : Ref} (h : refProblem ix r = none) :
    r.off ≠ 0 ∧ ∃ size, Index.get ix r.off = some size ∧ r.need ≤ size ∧ expectOK r = true := by
  unfold refProblem at h
  by_cases hz : r.off = 0
  · rw [if_pos (beq_iff_eq.mpr hz)] at h; cases h
  rw [if_neg (mt beq_iff_eq.mp hz)] at h
  cases hget : Index.get ix r.off with
  | none => rw [hget] at h; cases h
  | some size =>
    rw [hget] at h
    dsimp only at h
    by_cases hle : r.need ≤ size
    · by_cases hex : expectOK r = true
      · exact ⟨hz, size, rfl, hle, hex⟩
      · rw [if_pos hle, if_neg hex] at h; cases h
    · rw [if_neg hle] at h; cases h

/-- index `i` designates rule `r` of the table.  With sorted rules this is `t.rule? i = some r` (`res_of_rule?`,
    `rule?_of_res`), and what the checker's index answers (`res_sound`, `res_complete`) -/
def Res (t : Table) (i : Nat) (r : Rule) : Prop := r ∈ t.rules ∧ r.idx = i
def Resolves (t : Table) (i : Nat) : Prop := ∃ r, Res t i r
def ResolvesOpt (t : Table) (o : Option Nat) : Prop := ∀ i, o = some i → Resolves t i
def ChainAll (t : Table) (chain : List Nat) (P : Rule → Prop) : Prop := ∀ i ∈ chain, ∀ r, Res t i r → P r
def ChainOrdered (t : Table) (chain : List Nat) (R : Rule → Rule → Prop) : Prop :=
  chain.Pairwise (fun i j => ∀ ri rj, Res t i ri → Res t j rj → R ri rj)
def OptAll (t : Table) (o : Option Nat) (P : Rule → Prop) : Prop := ∀ i, o = some i → ∀ r, Res t i r → P r

/-- pass chains: decreasing length of the leading literal, definition order among equals -/
def PassLe (a b : Rule) : Prop := a.chars.length > b.chars.length ∨ (a.chars.length = b.chars.length ∧ a.idx < b.idx)

theorem idxAscending_sound : ∀ (l : List Rule) (lo : Nat), idxAscending lo l = true →
    (∀ r ∈ l, lo ≤ r.idx) ∧ l.Pairwise (fun a b => a.idx < b.idx) := by
  intro l
  induction l with
  | nil => exact fun _ _ => ⟨nofun, .nil⟩
  | cons r rest ih =>
    intro lo h
    unfold idxAscending at h
    simp only [Bool.and_eq_true, decide_eq_true_eq] at h
    obtain ⟨ihA, ihP⟩ := ih (r.idx + 1) h.2
    refine ⟨?_, List.pairwise_cons.mpr ⟨fun b hb => by have := ihA b hb; omega, ihP⟩⟩
    intro x hx
    rcases List.mem_cons.mp hx with rfl | hx
    · exact h.1
    · have := ihA x hx; omega

theorem nodupB_sound : ∀ (l : List Nat), nodupB l = true → l.Nodup := by
  intro l
  induction l with
  | nil => intro _; exact List.nodup_nil
  | cons a rest ih =>
    intro h
    unfold nodupB at h
    simp only [Bool.and_eq_true, Bool.not_eq_eq_eq_not, Bool.not_true] at h
    refine List.nodup_cons.mpr ⟨?_, ih h.2⟩
    intro hm
    have := List.contains_iff_mem.mpr hm
    rw [h.1] at this; cases this

theorem pairwiseB_sound {α : Type} (le : α → α → Bool) : ∀ (l : List α), pairwiseB le l = true →
    l.Pairwise (fun a b => le a b = true) := by
  intro l
  induction l with
  | nil => intro _; exact List.Pairwise.nil
  | cons a rest ih =>
    intro h
    unfold pairwiseB at h
    simp only [Bool.and_eq_true, List.all_eq_true] at h
    exact List.pairwise_cons.mpr ⟨h.1, ih h.2⟩

theorem res_sound {t : Table} {linked : List (Nat × Nat)} {i : Nat} {r : Rule}
    (h : (mkCtx t linked).res i = some r) : Res t i r := by
  obtain ⟨x, hx, hxe⟩ := List.mem_map.mp (index_get_sound h)
  obtain ⟨hi, rfl⟩ := Prod.mk.inj hxe
  exact ⟨hx, hi⟩

theorem res_unique {t : Table} (hs : t.rules.Pairwise (fun a b => a.idx < b.idx)) {i : Nat} {r r' : Rule}
    (h : Res t i r) (h' : Res t i r') : r = r' :=
  Table.nodup_map_inj (f := (·.idx)) (List.pairwise_map.mpr (hs.imp Nat.ne_of_lt)) h.1 h'.1 (h.2.trans h'.2.symm)

theorem ok_res (cx : Ctx) (i : Nat) (h : cx.ok i = true) : ∃ r, cx.res i = some r :=
  Option.isSome_iff_exists.mp h

theorem ok_resolves {t : Table} {linked : List (Nat × Nat)} {i : Nat} (h : (mkCtx t linked).ok i = true) : Resolves t i :=
  let ⟨r, hr⟩ := ok_res _ i h
  ⟨r, res_sound hr⟩

theorem okOpt_sound {t : Table} {linked : List (Nat × Nat)} {o : Option Nat} (h : (mkCtx t linked).okOpt o = true) :
    ResolvesOpt t o := by
  rintro i rfl
  exact ok_resolves h

theorem res_complete {t : Table} {linked : List (Nat × Nat)} (hs : t.rules.Pairwise (fun a b => a.idx < b.idx))
    {i : Nat} (hok : (mkCtx t linked).ok i = true) {r : Rule} (hr : Res t i r) : (mkCtx t linked).res i = some r := by
  obtain ⟨r0, h0⟩ := ok_res _ i hok
  rw [h0, res_unique hs hr (res_sound h0)]

theorem res_of_rule? (t : Table) (i : Nat) (r : Rule) (h : t.rule? i = some r) : Res t i r :=
  ⟨Table.rule?_mem h, Table.rule?_idx h⟩

theorem rule?_of_res (t : Table) (hs : t.rules.Pairwise (fun a b => a.idx < b.idx)) (i : Nat) (r : Rule) (hr : Res t i r) :
    t.rule? i = some r := by
  cases hf : t.rule? i with
  | none => simpa [hr.2] using List.find?_eq_none.mp hf r hr.1
  | some r0 => rw [res_unique hs hr (res_of_rule? t i r0 hf)]

theorem chainAll_of_check {t : Table} {linked : List (Nat × Nat)} (hs : t.rules.Pairwise (fun a b => a.idx < b.idx))
    {chain : List Nat} (hok : ∀ i ∈ chain, (mkCtx t linked).ok i = true) {p : Rule → Bool} {P : Rule → Prop}
    (hall : ∀ r ∈ resolved (mkCtx t linked) chain, p r = true) (hpP : ∀ r, p r = true → P r) : ChainAll t chain P :=
  fun i hi r hr => hpP r (hall r (List.mem_filterMap.mpr ⟨i, hi, res_complete hs (hok i hi) hr⟩))

theorem chainOrdered_of_check {t : Table} {linked : List (Nat × Nat)} (hs : t.rules.Pairwise (fun a b => a.idx < b.idx))
    {chain : List Nat} (hok : ∀ i ∈ chain, (mkCtx t linked).ok i = true) {le : Rule → Rule → Bool} {R : Rule → Rule → Prop}
    (hp : pairwiseB le (resolved (mkCtx t linked) chain) = true) (hle : ∀ a b, le a b = true → R a b) :
    ChainOrdered t chain R := by
  refine List.Pairwise.imp_of_mem ?_ (List.pairwise_filterMap.mp (pairwiseB_sound le _ hp))
  intro i j hi hj hij ri rj hri hrj
  exact hle _ _ (hij ri (res_complete hs (hok i hi) hri) rj (res_complete hs (hok j hj) hrj))

theorem optAll_of_check {t : Table} {linked : List (Nat × Nat)} (hs : t.rules.Pairwise (fun a b => a.idx < b.idx))
    {o : Option Nat} (hok : (mkCtx t linked).okOpt o = true) {p : Rule → Bool} {P : Rule → Prop}
    (h : optAll (mkCtx t linked) o p = true) (hpP : ∀ r, p r = true → P r) : OptAll t o P := by
  rintro i rfl r hr
  unfold optAll at h
  simp only [res_complete hs hok hr] at h
  exact hpP r h

theorem clause_eq_nil_iff {ok : Bool} {msg : Unit → List String} : clause ok msg = [] ↔ ok = true := by
  cases ok <;> simp [clause]

theorem fwdLeB_le (a b : Rule) (h : fwdLeB a b = true) : Lou.Chain.le a b := by
  unfold fwdLeB at h
  unfold Lou.Chain.le Lou.Chain.cls
  simp only [Bool.or_eq_true, decide_eq_true_eq, Bool.and_eq_true, beq_iff_eq] at h
  simp only [beq_iff_eq]
  exact h

theorem charLeB_le (a b : Rule) (h : charLeB a b = true) : CharLe a b := by
  unfold charLeB at h
  unfold CharLe IsDef
  simp only [Bool.or_eq_true, Bool.and_eq_true, Bool.not_eq_eq_eq_not, Bool.not_true, beq_iff_eq, decide_eq_true_eq] at h
  rcases h with ⟨h1, h2⟩ | ⟨h1, h2⟩
  · left; exact ⟨by rw [h1]; simp, h2⟩
  · right; exact ⟨by rw [h1], h2⟩

theorem passLeB_le (a b : Rule) (h : passLeB a b = true) : PassLe a b := by
  unfold passLeB at h
  simp only [Bool.or_eq_true, decide_eq_true_eq, Bool.and_eq_true, beq_iff_eq] at h
  exact h

theorem passMemberOK_sound (p : Nat) (r : Rule) (h : passMemberOK p r = true) :
    r.opcode = passOpcodeOf p ∧ (p = 1 → r.chars = []) := by
  unfold passMemberOK at h
  simp only [Bool.and_eq_true, beq_iff_eq, Bool.or_eq_true, bne_iff_ne, ne_eq, List.isEmpty_iff] at h
  exact ⟨h.1, fun hp => h.2.resolve_left (absurd hp)⟩

theorem find?_before {α : Type} {l : List α} {p : α → Bool} {r : α} (hin : r ∈ l) (hp : p r = true) :
    ∃ r' pre post, l = pre ++ r' :: post ∧ (∀ a ∈ pre, p a = false) ∧ p r' = true ∧ l.find? p = some r' ∧ (r' = r ∨ r ∈ post) := by
  cases hf : l.find? p with
  | none => exact absurd hp (by simpa using List.find?_eq_none.mp hf r hin)
  | some r' =>
    obtain ⟨hpr', pre, post, hsplit, hpre⟩ := List.find?_eq_some_iff_append.mp hf
    refine ⟨r', pre, post, hsplit, fun a ha => by simpa using hpre a ha, hpr', rfl, ?_⟩
    rw [hsplit] at hin
    rcases List.mem_append.mp hin with hin | hin
    · exact absurd hp (by simpa using hpre r hin)
    · exact (List.mem_cons.mp hin).imp_left Eq.symm

end Lou.C12
