/-
  What the functions of the compile model (`LouModel/Compile.lean`) do: the inserters as cases and as sequences of
  updates (with the stop tests of `Lemmas/Chain` in place of the model's lambdas), the cases of `compileEntry`, induction
  over the entries of a file, and what a step leaves alone: every step but `registerRule` only adds references to rules
  (`Links`: the four lists grow in the sense of `C15.Grows`, the other fields stay), so an accepted entry is `Links`, one
  rule registered, `Links` (`Adds`, `compileEntry_adds`).
-/
import LouModel.Compile
import LouProofs.Lemmas.Table
import LouProofs.Lemmas.Chain

namespace Lou

namespace Compile
open Lou.Gen Lou.Chain

theorem insertBefore_perm (stop : Rule → Bool) (t : Table) (new : Nat) (chain : List Nat) :
    (insertBefore stop t new chain).Perm (new :: chain) := by
  induction chain with
  | nil => exact .refl _
  | cons i rest ih =>
    have hgo : (i :: insertBefore stop t new rest).Perm (new :: i :: rest) := (ih.cons i).trans (.swap ..)
    unfold insertBefore
    split
    · split
      · exact .refl _
      · exact hgo
    · exact hgo

theorem mem_insertBefore {stop : Rule → Bool} {t : Table} {new : Nat} {chain : List Nat} {j : Nat} :
    j ∈ insertBefore stop t new chain ↔ j = new ∨ j ∈ chain := by
  rw [(insertBefore_perm stop t new chain).mem_iff, List.mem_cons]

theorem insertBefore_sublist (stop : Rule → Bool) (t : Table) (new : Nat) (chain : List Nat) :
    chain.Sublist (insertBefore stop t new chain) := by
  induction chain with
  | nil => exact List.nil_sublist _
  | cons i rest ih =>
    unfold insertBefore
    split
    · split
      · exact .cons _ (.refl _)
      · exact ih.cons_cons i
    · exact ih.cons_cons i

theorem mem_updBucket {bs : List (Nat × List Nat)} {h : Nat} {f : List Nat → List Nat} {b : Nat × List Nat}
    (hb : b ∈ updBucket bs h f) :
    b ∈ bs ∨ (∃ old, (h, old) ∈ bs ∧ b = (h, f old)) ∨ ((∀ x ∈ bs, x.1 ≠ h) ∧ b = (h, f [])) := by
  unfold updBucket at hb
  split at hb
  · obtain ⟨x, hx, rfl⟩ := List.mem_map.mp hb
    split
    next hxh => exact .inr (.inl ⟨x.2, by rw [← beq_iff_eq.mp hxh]; exact hx, by rw [beq_iff_eq.mp hxh]⟩)
    · exact .inl hx
  next hany =>
    rcases List.mem_append.mp hb with hb | hb
    · exact .inl hb
    · refine .inr (.inr ⟨fun x hx hxe => hany (List.any_eq_true.mpr ⟨x, hx, by simpa using hxe⟩), ?_⟩)
      simpa using hb

theorem updBucket_keys (bs : List (Nat × List Nat)) (h : Nat) (f : List Nat → List Nat) :
    (updBucket bs h f).map (·.1) = if bs.any (·.1 == h) then bs.map (·.1) else bs.map (·.1) ++ [h] := by
  unfold updBucket
  split
  · rw [List.map_map]
    exact List.map_congr_left fun b _ => by simp only [Function.comp]; split <;> rfl
  · simp

theorem registerRule_rule? (t : Table) (r : Rule) (i : Nat) :
    (registerRule t r).rule? i = (t.rule? i).or (if r.idx = i then some r else none) := by
  unfold registerRule Table.rule?
  simp only [List.find?_append, List.find?_singleton, beq_iff_eq]

theorem rawHash_lt (a b : Nat) : rawHash a b < HASHNUM := by
  unfold rawHash; exact Nat.mod_lt _ (by decide)

theorem putChar_elim {P : Table → Prop} (t : Table) (c : Nat) (h1 : ∀ cr, t.char? c = some cr → P t)
    (h2 : t.char? c = none → P { t with chars := t.chars ++ [{ value := c, attrs := 0 }] }) : P (putChar t c) := by
  unfold putChar
  cases h : t.char? c with
  | some cr => exact h1 cr h
  | none => exact h2 h

theorem putDots_elim {P : Table → Prop} (t : Table) (d : Nat) (h1 : ∀ dr, t.dots? d = some dr → P t)
    (h2 : t.dots? d = none → P { t with dots := t.dots ++ [{ value := d, attrs := 0 }] }) : P (putDots t d) := by
  unfold putDots
  cases h : t.dots? d with
  | some dr => exact h1 dr h
  | none => exact h2 h

/-- `addFwdSingle` as the three updates it makes, in the model's order: the record, the definition rule (definition
    opcodes only), the chain.  `Q` is what the first two carry along, `P` what holds after the third -/
theorem addFwdSingle_elim {Q P : Table → Prop} (t : Table) (r : Rule) (hput : Q (putChar t (r.chars.headD 0)))
    (hdef : isDefOpcode r.opcode = true → ∀ t', Q t' →
      Q (updChar t' (r.chars.headD 0) fun cr => if cr.defRule.isSome then cr else { cr with defRule := some r.idx }))
    (hins : ∀ t', Q t' →
      P (updChar t' (r.chars.headD 0) fun cr => { cr with chain := insertBefore (stopChar r) t' r.idx cr.chain })) :
    P (addFwdSingle t r) := by
  unfold addFwdSingle
  -- the model's inline stop test is `stopChar r` by unfolding; so for `stopDots`, `stopFwd`, `stopBack` below
  refine hins _ ?_
  split
  next hd => exact hdef hd _ hput
  · exact hput

theorem addBackSingle_elim {Q P : Table → Prop} (t : Table) (r : Rule) (cell : Nat)
    (hskip : r.opcode = CTO_SwapCc ∨ r.opcode = CTO_Repeated → P t) (hput : Q (putDots t cell))
    (hdef : isDefOpcode r.opcode = true → ∀ t', Q t' → Q (updDots t' cell fun dr => { dr with defRule := some r.idx }))
    (hins : r.opcode ≠ CTO_SwapCc → r.opcode ≠ CTO_Repeated → ∀ t', Q t' →
      P (updDots t' cell fun dr => { dr with chain := insertBefore (stopDots r) t' r.idx dr.chain })) :
    P (addBackSingle t r cell) := by
  unfold addBackSingle
  split
  next h => exact hskip (by simpa using h)
  next h =>
    simp only [Bool.or_eq_true, beq_iff_eq, not_or] at h
    refine hins h.1 h.2 _ ?_
    split
    next hd => exact hdef hd _ hput
    · exact hput

theorem addFwdMulti_eq (t : Table) (r : Rule) : addFwdMulti t r =
    { t with forB := updBucket t.forB (rawHash (r.chars.getD 0 0) (r.chars.getD 1 0)) (insertBefore (stopFwd r) t r.idx) } :=
  rfl

theorem addBackMulti_elim {P : Table → Prop} (t : Table) (r : Rule) (h0 : r.opcode = CTO_SwapCc → P t)
    (h1 : r.opcode ≠ CTO_SwapCc →
      P { t with backB := updBucket t.backB (rawHash (r.dots.getD 0 0) (r.dots.getD 1 0)) (insertBefore (stopBack r) t r.idx) }) :
    P (addBackMulti t r) := by
  unfold addBackMulti
  split
  next h => exact h0 (beq_iff_eq.mp h)
  next h => exact h1 (mt beq_iff_eq.mpr h)

theorem prepCharDef_elim {Q : Table → Prop} (t : Table) (c : Nat) (dots : List Nat) (a : Nat)
    (hrecs : Q (dots.reverse.foldl putDots (updChar (putChar t c) c fun cr => { cr with attrs := cr.attrs ||| a })))
    (hattr : dots.length = 1 → ∀ t', Q t' → Q (updDots t' (dots.headD 0) fun dr => { dr with attrs := dr.attrs ||| a })) :
    Q (prepCharDef t c dots a) := by
  unfold prepCharDef
  split
  next h => exact hattr (beq_iff_eq.mp h) _ hrecs
  · exact hrecs

/-- the shape `linkFwd` and `linkBack` share -/
theorem link_elim {P : Table → Prop} (off : Bool) (n : Nat) (t single multi : Table) (h0 : P t) (h1 : n = 1 → P single)
    (h2 : 2 ≤ n → P multi) : P (if off then t else if n == 1 then single else if n > 1 then multi else t) := by
  by_cases hn : off = true
  · rwa [if_pos hn]
  by_cases hl : n = 1
  · rw [if_neg hn, if_pos (beq_iff_eq.mpr hl)]; exact h1 hl
  by_cases hm : n > 1
  · rw [if_neg hn, if_neg (mt beq_iff_eq.mp hl), if_pos hm]; exact h2 hm
  · rwa [if_neg hn, if_neg (mt beq_iff_eq.mp hl), if_neg hm]

theorem linkFwd_elim {P : Table → Prop} (t : Table) (e : Entry) (r : Rule) (h0 : P t)
    (h1 : r.chars.length = 1 → P (addFwdSingle t r)) (h2 : 2 ≤ r.chars.length → P (addFwdMulti t r)) : P (linkFwd t e r) :=
  link_elim e.nofor r.chars.length t _ _ h0 h1 h2

theorem linkBack_elim {P : Table → Prop} (t : Table) (e : Entry) (r : Rule) (h0 : P t)
    (h1 : r.dots.length = 1 → P (addBackSingle t r (r.dots.headD 0))) (h2 : 2 ≤ r.dots.length → P (addBackMulti t r)) :
    P (linkBack t e r) :=
  link_elim e.noback r.dots.length t _ _ h0 h1 h2

theorem addRule_eq (t : Table) (e : Entry) :
    addRule t e = (linkBack (linkFwd (registerRule t (newRule t e)) e (newRule t e)) e (newRule t e), t.ruleCounter) := rfl

/-- the decision tree of `compileEntry`, every Boolean test stated as a proposition (`e.dots = []` is the `=` operand) -/
theorem compileEntry_elim {P : Option Table → Prop} (t : Table) (e : Entry)
    (hdef : ∀ a c, defAttr e.opcode = some a → e.chars = [c] → e.dots ≠ [] → P (some (addRule (prepCharDef t c e.dots
      (if a &&& (CTC_UpperCase ||| CTC_LowerCase) != 0 then a ||| CTC_Letter else a)) e).1))
    (hdef0 : defAttr e.opcode ≠ none → e.chars.length ≠ 1 ∨ e.dots = [] → P none)
    (hns : defAttr e.opcode = none → e.opcode = CTO_NumberSign → e.dots ≠ [] →
      P (some { (addRule t { e with chars := [] }).1 with numberSign := some (addRule t { e with chars := [] }).2 }))
    (hud : defAttr e.opcode = none → e.opcode = CTO_Undefined → e.dots ≠ [] →
      P (some { (addRule t { e with chars := [] }).1 with undefined := some (addRule t { e with chars := [] }).2 }))
    (hslot0 : defAttr e.opcode = none → e.opcode = CTO_NumberSign ∨ e.opcode = CTO_Undefined → e.dots = [] → P none)
    (hrule : defAttr e.opcode = none → e.opcode ≠ CTO_NumberSign → e.opcode ≠ CTO_Undefined → e.chars ≠ [] →
      (e.dots = [] → ∀ c ∈ e.chars, ∃ cr, t.char? c = some cr ∧ (cr.defRule.isSome ∨ cr.base.isSome)) → P (some (addRule t e).1))
    (hrule0 : defAttr e.opcode = none → e.opcode ≠ CTO_NumberSign → e.opcode ≠ CTO_Undefined →
      e.chars = [] ∨ (e.dots = [] ∧ ¬ ∀ c ∈ e.chars, ∃ cr, t.char? c = some cr ∧ (cr.defRule.isSome ∨ cr.base.isSome)) → P none) :
    P (compileEntry t e) := by
  unfold compileEntry
  cases hd : defAttr e.opcode with
  | some a =>
    have hd' : defAttr e.opcode ≠ none := by rw [hd]; nofun
    simp only [compileCharDef, List.isEmpty_iff]
    split
    next c hc =>
      by_cases hdots : e.dots = []
      · rw [if_pos hdots]; exact hdef0 hd' (.inr hdots)
      · rw [if_neg hdots]; exact hdef a c hd hc hdots
    next hc =>
      refine hdef0 hd' (.inl fun hl => ?_)
      match hce : e.chars, hl with
      | [c], _ => exact hc c hce
  | none =>
    simp only [beq_iff_eq, List.isEmpty_iff, Bool.and_eq_true, Bool.not_eq_true', List.all_eq_false]
    by_cases h1 : e.opcode = CTO_NumberSign
    · rw [if_pos h1]
      by_cases hdots : e.dots = []
      · rw [if_pos hdots]; exact hslot0 hd (.inl h1) hdots
      · rw [if_neg hdots]; exact hns hd h1 hdots
    rw [if_neg h1]
    by_cases h2 : e.opcode = CTO_Undefined
    · rw [if_pos h2]
      by_cases hdots : e.dots = []
      · rw [if_pos hdots]; exact hslot0 hd (.inr h2) hdots
      · rw [if_neg hdots]; exact hud hd h2 hdots
    rw [if_neg h2]
    by_cases hc : e.chars = []
    · rw [if_pos hc]; exact hrule0 hd h1 h2 (.inl hc)
    rw [if_neg hc]
    -- `h` holds the last test's own `match` on `t.char? c`; a restated `match` would elaborate to another matcher, so it
    -- is converted here, where `split` hands it over
    split
    next h =>
      obtain ⟨hdots, c, hcm, hfc⟩ := h
      refine hrule0 hd h1 h2 (.inr ⟨hdots, fun hP => hfc ?_⟩)
      obtain ⟨cr, hcr, hor⟩ := hP c hcm
      rw [hcr]
      simpa using hor
    next h =>
      refine hrule hd h1 h2 hc fun hdots c hcm => ?_
      cases hch : t.char? c with
      | none => exact absurd ⟨hdots, c, hcm, by rw [hch]; nofun⟩ h
      | some cr => exact ⟨cr, rfl, Classical.not_not.mp fun hn => h ⟨hdots, c, hcm, by rw [hch]; simpa using hn⟩⟩

theorem compileEntry_some {t t' : Table} {e : Entry} (h : compileEntry t e = some t') :
    (∃ c a, defAttr e.opcode ≠ none ∧ e.chars = [c] ∧ t' = (addRule (prepCharDef t c e.dots a) e).1) ∨
    (defAttr e.opcode = none ∧
      ((t' = { (addRule t { e with chars := [] }).1 with numberSign := some (addRule t { e with chars := [] }).2 } ∨
        t' = { (addRule t { e with chars := [] }).1 with undefined := some (addRule t { e with chars := [] }).2 }) ∨
       t' = (addRule t e).1)) := by
  revert h
  refine compileEntry_elim (P := fun o => o = some t' → _) t e ?_ (fun _ _ => nofun) ?_ ?_ (fun _ _ _ => nofun) ?_
    (fun _ _ _ _ => nofun)
  · exact fun a c hd hc _ h => .inl ⟨c, _, by rw [hd]; nofun, hc, (Option.some.inj h).symm⟩
  · exact fun hd _ _ h => .inr ⟨hd, .inl (.inl (Option.some.inj h).symm)⟩
  · exact fun hd _ _ h => .inr ⟨hd, .inl (.inr (Option.some.inj h).symm)⟩
  · exact fun hd _ _ _ _ h => .inr ⟨hd, .inr (Option.some.inj h).symm⟩

theorem foldlM_compileEntry_induction {P : Table → Prop} {es : List Entry} {t t' : Table} (h : es.foldlM compileEntry t = some t')
    (h0 : P t) (hstep : ∀ e ∈ es, ∀ t t', P t → compileEntry t e = some t' → P t') : P t' := by
  induction es generalizing t with
  | nil => cases h; exact h0
  | cons e es ih =>
    rw [List.foldlM_cons] at h
    cases hce : compileEntry t e with
    | none => rw [hce] at h; cases h
    | some t1 =>
      rw [hce] at h
      exact ih h (hstep e (List.mem_cons_self ..) t t1 h0 hce) fun e' he' => hstep e' (List.mem_cons_of_mem _ he')

theorem compileUnfinalised_induction {P : Table → Prop} {es : List Entry} {t : Table} (h : compileUnfinalised es = some t)
    (h0 : P initTable) (hstep : ∀ e ∈ endSegmentEntry :: es, ∀ t t', P t → compileEntry t e = some t' → P t') : P t := by
  refine foldlM_compileEntry_induction h ?_ fun e he => hstep e (List.mem_cons_of_mem _ he)
  -- the closed term `compileEntry initTable endSegmentEntry` is a `some`: the model's `.getD initTable` is never taken
  have hsome : (compileEntry initTable endSegmentEntry).isSome = true := by decide +kernel
  obtain ⟨t1, hce⟩ := Option.isSome_iff_exists.mp hsome
  rw [hce]
  exact hstep _ (List.mem_cons_self ..) _ _ h0 hce

theorem compile_some {es : List Entry} {t : Table} (h : compile es = some t) :
    ∃ t0, compileUnfinalised es = some t0 ∧ t = finalise t0 := by
  obtain ⟨t0, h0, rfl⟩ := Option.map_eq_some_iff.mp h
  exact ⟨t0, h0, rfl⟩

end Compile

-- under `Lou.C15` since `C15.add_monotone` is stated with it; here because C12Compile and C12Defs use it too
namespace C15
open Lou.Gen Lou.Compile

/-- `t'` contains the rules, records and chains of `t` (slots, attributes and pass chains are outside): every index
    resolves to the same rule, every character, cell and bucket is still there, and its chain is a super-sequence of what
    it was (same relative order) -/
structure Grows (t t' : Table) : Prop where
  rules : ∀ i r, t.rule? i = some r → t'.rule? i = some r
  chars : ∀ c ∈ t.chars, ∃ c' ∈ t'.chars, c'.value = c.value ∧ c.chain.Sublist c'.chain
  dots : ∀ d ∈ t.dots, ∃ d' ∈ t'.dots, d'.value = d.value ∧ d.chain.Sublist d'.chain
  forB : ∀ b ∈ t.forB, ∃ b' ∈ t'.forB, b'.1 = b.1 ∧ b.2.Sublist b'.2
  backB : ∀ b ∈ t.backB, ∃ b' ∈ t'.backB, b'.1 = b.1 ∧ b.2.Sublist b'.2

/-- the four list clauses of `Grows` are `Ext` at a key and a chain, written out there -/
def Ext {α : Type} (key : α → Nat) (chain : α → List Nat) (l l' : List α) : Prop :=
  ∀ x ∈ l, ∃ x' ∈ l', key x' = key x ∧ (chain x).Sublist (chain x')

theorem Ext.refl {α : Type} {key : α → Nat} {chain : α → List Nat} (l : List α) : Ext key chain l l :=
  fun x hx => ⟨x, hx, rfl, .refl _⟩

theorem Ext.trans {α : Type} {key : α → Nat} {chain : α → List Nat} {l₁ l₂ l₃ : List α}
    (h1 : Ext key chain l₁ l₂) (h2 : Ext key chain l₂ l₃) : Ext key chain l₁ l₃ := fun x hx =>
  let ⟨y, hy, e1, s1⟩ := h1 x hx
  let ⟨z, hz, e2, s2⟩ := h2 y hy
  ⟨z, hz, e2.trans e1, s1.trans s2⟩

theorem Ext.has {α : Type} {key : α → Nat} {chain : α → List Nat} {l l' : List α} (h : Ext key chain l l') {k : Nat} :
    (∃ x ∈ l, key x = k) → ∃ x ∈ l', key x = k :=
  fun ⟨x, hm, hv⟩ => let ⟨x', hm', hv', _⟩ := h x hm; ⟨x', hm', hv'.trans hv⟩

theorem Ext.append {α : Type} {key : α → Nat} {chain : α → List Nat} (l m : List α) : Ext key chain l (l ++ m) :=
  fun x hx => ⟨x, List.mem_append_left _ hx, rfl, .refl _⟩

theorem Ext.map_if {α : Type} {key : α → Nat} {chain : α → List Nat} (l : List α) (p : α → Bool) (f : α → α)
    (hf : ∀ x, key (f x) = key x ∧ (chain x).Sublist (chain (f x))) : Ext key chain l (l.map fun x => if p x then f x else x) := by
  intro x hx
  refine ⟨_, List.mem_map.mpr ⟨x, hx, rfl⟩, ?_⟩
  split
  · exact hf x
  · exact ⟨rfl, .refl _⟩

theorem updBucket_ext (bs : List (Nat × List Nat)) (h : Nat) (f : List Nat → List Nat) (hf : ∀ l : List Nat, l.Sublist (f l)) :
    Ext (·.1) (·.2) bs (updBucket bs h f) := by
  unfold updBucket
  split
  · exact Ext.map_if _ _ (fun b => (b.1, f b.2)) fun b => ⟨rfl, hf b.2⟩
  · exact Ext.append _ _

theorem Grows.refl (t : Table) : Grows t t := ⟨fun _ _ h => h, Ext.refl _, Ext.refl _, Ext.refl _, Ext.refl _⟩

theorem Grows.trans {a b c : Table} (h1 : Grows a b) (h2 : Grows b c) : Grows a c :=
  ⟨fun i r h => h2.rules i r (h1.rules i r h), Ext.trans h1.chars h2.chars, Ext.trans h1.dots h2.dots,
   Ext.trans h1.forB h2.forB, Ext.trans h1.backB h2.backB⟩

theorem registerRule_grows (t : Table) (r : Rule) : Grows t (registerRule t r) :=
  ⟨fun i x h => by rw [registerRule_rule?, h, Option.some_or], Ext.refl _, Ext.refl _, Ext.refl _, Ext.refl _⟩

end C15

namespace Compile
open Lou.Gen Lou.Chain Lou.C15

/-- `t'` is `t` with references to rules added: records and chain members (the four lists grew), and possibly the `numsign` /
    `undefined` slot.  Every other field is literally that of `t` (`same`: a projection of either side is closed by `rfl`
    after `obtain ⟨_, _, _, _, _, _, rfl⟩`).  What the compiler does before and after it registers the rule of an entry -/
structure Links (t t' : Table) : Prop where
  grows : Grows t t'
  same : ∃ cs ds fb bb ns ud, t' = { t with chars := cs, dots := ds, forB := fb, backB := bb, numberSign := ns, undefined := ud }

theorem Links.of_ext (t : Table) {cs : List CharRec} {ds : List DotsRec} {fb bb : List (Nat × List Nat)} {ns ud : Option Nat}
    (hc : Ext (·.value) (·.chain) t.chars cs) (hd : Ext (·.value) (·.chain) t.dots ds) (hf : Ext (·.1) (·.2) t.forB fb)
    (hb : Ext (·.1) (·.2) t.backB bb) :
    Links t { t with chars := cs, dots := ds, forB := fb, backB := bb, numberSign := ns, undefined := ud } :=
  ⟨⟨fun _ _ h => h, hc, hd, hf, hb⟩, cs, ds, fb, bb, ns, ud, rfl⟩

theorem Links.refl (t : Table) : Links t t := Links.of_ext t (.refl _) (.refl _) (.refl _) (.refl _)

theorem Links.trans {a b c : Table} (h1 : Links a b) (h2 : Links b c) : Links a c := by
  refine ⟨h1.grows.trans h2.grows, ?_⟩
  obtain ⟨_, _, _, _, _, _, rfl⟩ := h1.same
  obtain ⟨cs, ds, fb, bb, ns, ud, rfl⟩ := h2.same
  exact ⟨cs, ds, fb, bb, ns, ud, rfl⟩

theorem Links.rules {t t' : Table} (h : Links t t') : t'.rules = t.rules := by
  obtain ⟨_, _, _, _, _, _, rfl⟩ := h.same
  rfl

theorem Links.ruleCounter {t t' : Table} (h : Links t t') : t'.ruleCounter = t.ruleCounter := by
  obtain ⟨_, _, _, _, _, _, rfl⟩ := h.same
  rfl

theorem Links.rule? {t t' : Table} (h : Links t t') : t'.rule? = t.rule? := by
  obtain ⟨_, _, _, _, _, _, rfl⟩ := h.same
  rfl

theorem putChar_links (t : Table) (c : Nat) : Links t (putChar t c) :=
  putChar_elim t c (fun _ _ => .refl t) fun _ => .of_ext t (Ext.append _ _) (.refl _) (.refl _) (.refl _)

theorem putDots_links (t : Table) (d : Nat) : Links t (putDots t d) :=
  putDots_elim t d (fun _ _ => .refl t) fun _ => .of_ext t (.refl _) (Ext.append _ _) (.refl _) (.refl _)

theorem updChar_links (t : Table) (c : Nat) (f : CharRec → CharRec)
    (hf : ∀ x, (f x).value = x.value ∧ x.chain.Sublist (f x).chain) : Links t (updChar t c f) :=
  .of_ext t (Ext.map_if _ _ f hf) (.refl _) (.refl _) (.refl _)

theorem updDots_links (t : Table) (d : Nat) (f : DotsRec → DotsRec)
    (hf : ∀ x, (f x).value = x.value ∧ x.chain.Sublist (f x).chain) : Links t (updDots t d f) :=
  .of_ext t (.refl _) (Ext.map_if _ _ f hf) (.refl _) (.refl _)

theorem addFwdSingle_links (t : Table) (r : Rule) : Links t (addFwdSingle t r) :=
  addFwdSingle_elim (Q := Links t) t r (putChar_links t _)
    (fun _ t' h => h.trans (updChar_links t' _ _ fun x => by split <;> exact ⟨rfl, .refl _⟩))
    fun t' h => h.trans (updChar_links t' _ _ fun _ => ⟨rfl, insertBefore_sublist ..⟩)

theorem addBackSingle_links (t : Table) (r : Rule) (cell : Nat) : Links t (addBackSingle t r cell) :=
  addBackSingle_elim (Q := Links t) t r cell (fun _ => .refl t) (putDots_links t cell)
    (fun _ t' h => h.trans (updDots_links t' _ _ fun _ => ⟨rfl, .refl _⟩))
    fun _ _ t' h => h.trans (updDots_links t' _ _ fun _ => ⟨rfl, insertBefore_sublist ..⟩)

theorem addFwdMulti_links (t : Table) (r : Rule) : Links t (addFwdMulti t r) :=
  addFwdMulti_eq t r ▸ .of_ext t (.refl _) (.refl _) (updBucket_ext _ _ _ (insertBefore_sublist _ _ _)) (.refl _)

theorem addBackMulti_links (t : Table) (r : Rule) : Links t (addBackMulti t r) :=
  addBackMulti_elim t r (fun _ => .refl t)
    fun _ => .of_ext t (.refl _) (.refl _) (.refl _) (updBucket_ext _ _ _ (insertBefore_sublist _ _ _))

theorem linkFwd_links (t : Table) (e : Entry) (r : Rule) : Links t (linkFwd t e r) :=
  linkFwd_elim t e r (.refl t) (fun _ => addFwdSingle_links t r) fun _ => addFwdMulti_links t r

theorem linkBack_links (t : Table) (e : Entry) (r : Rule) : Links t (linkBack t e r) :=
  linkBack_elim t e r (.refl t) (fun _ => addBackSingle_links t r _) fun _ => addBackMulti_links t r

theorem foldl_putDots_links (l : List Nat) (t : Table) : Links t (l.foldl putDots t) :=
  List.foldlRecOn l putDots (.refl t) fun t' h d _ => h.trans (putDots_links t' d)

theorem prepCharDef_links (t : Table) (c : Nat) (dots : List Nat) (a : Nat) : Links t (prepCharDef t c dots a) :=
  prepCharDef_elim (Q := Links t) t c dots a
    (((putChar_links t c).trans (updChar_links _ c (fun cr => { cr with attrs := cr.attrs ||| a }) fun _ => ⟨rfl, .refl _⟩)).trans
      (foldl_putDots_links dots.reverse _))
    fun _ t' h => h.trans (updDots_links t' _ _ fun _ => ⟨rfl, .refl _⟩)

theorem putChar_has (t : Table) (c : Nat) : ∃ cr ∈ (putChar t c).chars, cr.value = c :=
  putChar_elim (P := fun t' => ∃ cr ∈ t'.chars, cr.value = c) t c (fun cr h => ⟨cr, Table.char?_mem h, Table.char?_value h⟩)
    fun _ => ⟨_, List.mem_append_right _ (List.mem_singleton_self _), rfl⟩

theorem putDots_has (t : Table) (d : Nat) : ∃ dr ∈ (putDots t d).dots, dr.value = d :=
  putDots_elim (P := fun t' => ∃ dr ∈ t'.dots, dr.value = d) t d (fun dr h => ⟨dr, Table.dots?_mem h, Table.dots?_value h⟩)
    fun _ => ⟨_, List.mem_append_right _ (List.mem_singleton_self _), rfl⟩

theorem foldl_putDots_has (ds : List Nat) (t : Table) : ∀ d ∈ ds, ∃ dr ∈ (ds.foldl putDots t).dots, dr.value = d := by
  induction ds generalizing t with
  | nil => intro d hd; cases hd
  | cons a ds ih =>
    intro d hd
    rcases List.mem_cons.mp hd with rfl | h
    · exact Ext.has (foldl_putDots_links ds _).grows.dots (putDots_has t d)
    · exact ih _ d h

/-- the characters and cells all have a record in `t`: what `C12.DefsFound` says of every definition rule -/
def HasRecords (t : Table) (chars dots : List Nat) : Prop :=
  (∀ c ∈ chars, ∃ cr ∈ t.chars, cr.value = c) ∧ ∀ d ∈ dots, ∃ dr ∈ t.dots, dr.value = d

theorem HasRecords.grows {t t' : Table} {chars dots : List Nat} (h : HasRecords t chars dots) (hg : Grows t t') :
    HasRecords t' chars dots :=
  ⟨fun c hc => Ext.has hg.chars (h.1 c hc), fun d hd => Ext.has hg.dots (h.2 d hd)⟩

theorem prepCharDef_has (t : Table) (c : Nat) (dots : List Nat) (a : Nat) : HasRecords (prepCharDef t c dots a) [c] dots := by
  -- `putChar` files the character, the fold over `putDots` the cells; no later step removes a record
  let t2 := updChar (putChar t c) c fun cr => { cr with attrs := cr.attrs ||| a }
  have g2 : Links (putChar t c) t2 := updChar_links _ c _ fun _ => ⟨rfl, .refl _⟩
  refine prepCharDef_elim (Q := fun t' => HasRecords t' [c] dots) t c dots a
    ⟨List.forall_mem_singleton.mpr (Ext.has (g2.trans (foldl_putDots_links dots.reverse t2)).grows.chars (putChar_has t c)),
      fun d hd => foldl_putDots_has dots.reverse t2 d (List.mem_reverse.mpr hd)⟩ fun _ t' h => h.grows ?_
  exact (updDots_links t' (dots.headD 0) (fun dr => { dr with attrs := dr.attrs ||| a }) fun _ => ⟨rfl, .refl _⟩).grows

/-- What an accepted entry does to a table: rule `r` is registered and references are added before and after (`Links`) -/
structure Adds (r : Rule) (t t' : Table) : Prop where
  grows : Grows t t'
  rules : t'.rules = t.rules ++ [r]
  ruleCounter : t'.ruleCounter = t.ruleCounter + 1
  finalized : t'.finalized = t.finalized

theorem Adds.links_left {r : Rule} {t t0 t' : Table} (h : Adds r t0 t') (hl : Links t t0) : Adds r t t' := by
  obtain ⟨_, _, _, _, _, _, rfl⟩ := hl.same
  exact ⟨hl.grows.trans h.grows, h.rules, h.ruleCounter, h.finalized⟩

theorem Adds.links_right {r : Rule} {t t1 t' : Table} (h : Adds r t t1) (hl : Links t1 t') : Adds r t t' := by
  obtain ⟨_, _, _, _, _, _, rfl⟩ := hl.same
  exact ⟨h.grows.trans hl.grows, h.rules, h.ruleCounter, h.finalized⟩

theorem addRule_links (t : Table) (e : Entry) : Links (registerRule t (newRule t e)) (addRule t e).1 :=
  (linkFwd_links _ e _).trans (linkBack_links _ e _)

theorem addRule_adds (t : Table) (e : Entry) : Adds (newRule t e) t (addRule t e).1 :=
  Adds.links_right ⟨registerRule_grows t _, rfl, rfl, rfl⟩ (addRule_links t e)

theorem compileEntry_adds {t t' : Table} {e : Entry} (hc : compileEntry t e = some t') :
    ∃ r, r.opcode = e.opcode ∧ Adds r t t' ∧ (defAttr e.opcode ≠ none → HasRecords t' r.chars r.dots) := by
  rcases compileEntry_some hc with ⟨c, a, hd, hch, rfl⟩ | ⟨hd, hslot | rfl⟩
  · have ha := addRule_adds (prepCharDef t c e.dots a) e
    have hrec : HasRecords _ e.chars e.dots := hch ▸ prepCharDef_has t c e.dots a
    exact ⟨_, rfl, ha.links_left (prepCharDef_links t c e.dots a), fun _ => hrec.grows ha.grows⟩
  -- `numsign`, `undefined`: setting the slot is a `Links` step
  · rcases hslot with rfl | rfl
    all_goals exact ⟨_, rfl, (addRule_adds t _).links_right (.of_ext _ (.refl _) (.refl _) (.refl _) (.refl _)), fun h => absurd hd h⟩
  · exact ⟨_, rfl, addRule_adds t e, fun h => absurd hd h⟩

/-- `h0`: the LOU_ENDSEGMENT rule every table starts with is a `space` -/
theorem compileUnfinalised_opcodes {Q : Nat → Prop} {es : List Entry} {t : Table} (h : compileUnfinalised es = some t)
    (h0 : Q CTO_Space) (hq : ∀ e ∈ es, Q e.opcode) : ∀ r ∈ t.rules, Q r.opcode := by
  refine compileUnfinalised_induction (P := fun t => ∀ r ∈ t.rules, Q r.opcode) h (fun r hr => by cases hr) fun e he t t' ih hc => ?_
  obtain ⟨r, hop, ha, -⟩ := compileEntry_adds hc
  rw [ha.rules]
  refine List.forall_mem_append.mpr ⟨ih, List.forall_mem_singleton.mpr ?_⟩
  rw [hop]
  rcases List.mem_cons.mp he with rfl | he
  · exact h0
  · exact hq e he

theorem compileString_eq (t : Table) (e : Entry) :
    compileString t e = if t.finalized then (false, t) else ((compileEntry t e).isSome, (compileEntry t e).getD t) := by
  unfold compileString
  cases compileEntry t e <;> rfl

end Compile

namespace C15
open Lou.Compile

theorem compileEntry_grows {t t' : Table} {e : Entry} (hc : compileEntry t e = some t') : Grows t t' :=
  let ⟨_, _, ha, _⟩ := compileEntry_adds hc
  ha.grows

theorem compileString_grows (t : Table) (e : Entry) : Grows t (compileString t e).2 := by
  rw [compileString_eq]
  split
  · exact .refl t
  · cases h : compileEntry t e with
    | none => exact .refl t
    | some t' => exact compileEntry_grows h

end C15
end Lou
