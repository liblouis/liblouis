/-
  The scan / clamp loops of `LouModel/PosMap.lean`.  The invariant of the scan (`Seen`) speaks of `finish n st`, the
  array the loop would return if it stopped now, and of the entries looked at so far; one step changes that array in
  one way (`finish_stepK`), and the facts about `scan` and `clampArr` themselves (at the end) are the fields of the
  invariant.  `omega` sees through `clamp`, `clamp0` and the `if` of `finish_stepK` once they are unfolded, so the case
  analyses on where an index lies are left to it.
-/
import LouModel.PosMap

namespace Lou.PosMap

theorem clamp0_mono {a b : Int} (h : a ≤ b) : clamp0 a ≤ clamp0 b := by unfold clamp0; omega
theorem clamp0_nonneg (a : Int) : 0 ≤ clamp0 a := by unfold clamp0; omega
theorem clamp0_of_nonneg {a : Int} (h : 0 ≤ a) : clamp0 a = a := by unfold clamp0; omega
theorem clamp0_le {a k : Int} (h : a ≤ k) (hk : 0 ≤ k) : clamp0 a ≤ k := by unfold clamp0; omega

theorem clamp_range (n p : Int) (h : 0 < n) : 0 ≤ clamp n p ∧ clamp n p < n := by unfold clamp; omega

theorem clamp_le_of_nonneg (n p : Int) (hp : 0 ≤ p) : clamp n p ≤ p := by unfold clamp; omega

theorem stepK_of_gt {n : Int} {st : S} {k p : Int} (h : p > st.inpos) :
    stepK n st k p = { inpos := p, outpos := k, arr := fun i =>
      if st.inpos ≤ i ∧ i < p ∧ 0 ≤ i ∧ i < n then clamp0 st.outpos else st.arr i } := if_pos h

theorem stepK_of_le {n : Int} {st : S} {k p : Int} (h : ¬ p > st.inpos) : stepK n st k p = st := if_neg h

theorem finish_below {n : Int} {st : S} {i : Int} (hi : i < st.inpos) : finish n st i = st.arr i :=
  if_neg (by omega)

theorem finish_from {n : Int} {st : S} {i : Int} (h0 : 0 ≤ i) (hi : st.inpos ≤ i) (hn : i < n) :
    finish n st i = st.outpos :=
  if_pos (by omega)

/-- the `clamp0` below `p` is that of the fill; a value written earlier is clamped already -/
theorem finish_stepK {n : Int} {st : S} {k p : Int} (hp : p > st.inpos)
    (hpos : ∀ i, 0 ≤ i → i < st.inpos → i < n → 0 ≤ finish n st i) {i : Int} (h0 : 0 ≤ i) (hn : i < n) :
    finish n (stepK n st k p) i = if i < p then clamp0 (finish n st i) else k := by
  rw [stepK_of_gt hp]
  by_cases hip : i < p
  · rw [if_pos hip, finish_below hip]
    by_cases hlt : i < st.inpos
    · have := hpos i h0 hlt hn
      rw [finish_below hlt] at this ⊢
      exact (if_neg (by omega)).trans (clamp0_of_nonneg this).symm
    · rw [finish_from h0 (by omega) hn]
      exact if_pos (by omega)
  · rw [if_neg hip, finish_from h0 (Int.not_lt.mp hip) hn]

structure Seen (n : Int) (st : S) (done : List Int) : Prop where
  top : ∀ p ∈ done, p ≤ st.inpos
  lt : ∀ i, 0 ≤ i → i < n → finish n st i < done.length
  mono : ∀ i j, 0 ≤ i → i ≤ j → j < n → finish n st i ≤ finish n st j
  nonneg : 0 ≤ st.inpos → ∀ i, 0 ≤ i → i < n → 0 ≤ finish n st i
  back : ∀ (j : Nat) (hj : j < done.length) (i : Int), 0 ≤ i → i ≤ done[j] → i < n → finish n st i ≤ j

theorem finish_init {n : Int} {a0 : Int → Int} {i : Int} (h0 : 0 ≤ i) (hn : i < n) : finish n (init a0) i = -1 :=
  if_pos ⟨h0, hn⟩

theorem seen_init (n : Int) (a0 : Int → Int) : Seen n (init a0) [] where
  top := nofun
  lt i h0 hn := by
    rw [finish_init h0 hn]
    decide
  mono i j h0 hij hn := by
    rw [finish_init h0 (by omega), finish_init (by omega) hn]
    exact Int.le_refl _
  nonneg := nofun
  back := nofun

theorem seen_step {n : Int} {st : S} {done : List Int} (p : Int) (h : Seen n st done) :
    Seen n (stepK n st done.length p) (done ++ [p]) := by
  have hlen : ((done ++ [p]).length : Int) = done.length + 1 := by simp
  by_cases hp : p > st.inpos
  · -- the entry is taken: `eq` says what the finished array becomes, and every clause is arithmetic on it
    have eq : ∀ {i}, 0 ≤ i → i < n → finish n (stepK n st done.length p) i =
        if i < p then clamp0 (finish n st i) else done.length :=
      finish_stepK hp fun i h0 hi hn => h.nonneg (by omega) i h0 hn
    have hin : (stepK n st done.length p).inpos = p := by rw [stepK_of_gt hp]
    have hlt : ∀ i, 0 ≤ i → i < n → finish n (stepK n st done.length p) i < (done ++ [p]).length := by
      intro i h0 hn
      have := h.lt i h0 hn
      rw [eq h0 hn, hlen]
      unfold clamp0
      omega
    refine ⟨?_, hlt, fun i j h0 hij hn => ?_, fun _ i h0 hn => ?_, fun j hj i h0 hi hn => ?_⟩
    · simp only [List.forall_mem_append, List.forall_mem_singleton, hin]
      exact ⟨fun q hq => Int.le_of_lt (Int.lt_of_le_of_lt (h.top q hq) hp), Int.le_refl _⟩
    · have := h.mono i j h0 hij hn
      have := h.lt i h0 (by omega)
      rw [eq h0 (by omega), eq (by omega) hn]
      unfold clamp0
      omega
    · rw [eq h0 hn]
      unfold clamp0
      omega
    · by_cases hjd : j < done.length
      · -- an entry seen before is at most the old `inpos`, so below `p`
        rw [List.getElem_append_left hjd] at hi
        have := h.top _ (List.getElem_mem hjd)
        have := h.back j hjd i h0 hi hn
        rw [eq h0 hn]
        unfold clamp0
        omega
      · -- the new entry is the last: every value of the finished array is below the number of entries seen
        have := hlt i h0 hn
        simp only [List.length_append, List.length_singleton] at hj
        omega
  · -- the entry is passed over: the state stays, and the entry is at most `inpos`
    rw [stepK_of_le hp]
    refine ⟨?_, fun i h0 hn => ?_, h.mono, h.nonneg, fun j hj i h0 hi hn => ?_⟩
    · simp only [List.forall_mem_append, List.forall_mem_singleton]
      exact ⟨h.top, Int.not_lt.mp hp⟩
    · exact Int.lt_trans (h.lt i h0 hn) (by omega)
    · by_cases hjd : j < done.length
      · rw [List.getElem_append_left hjd] at hi
        exact h.back j hjd i h0 hi hn
      · have := h.lt i h0 hn
        simp only [List.length_append, List.length_singleton] at hj
        omega

theorem seen_scanFrom (n : Int) (pm : List Int) : ∀ (st : S) (done : List Int), Seen n st done →
    Seen n (scanFrom n st done.length pm) (done ++ pm) := by
  induction pm with
  | nil => intro st done h; simpa [scanFrom] using h
  | cons p ps ih =>
    intro st done h
    simpa [scanFrom] using ih _ _ (seen_step p h)

theorem seen_scan (n : Int) (l : List Int) (a0 : Int → Int) : Seen n (scanFrom n (init a0) 0 l) l := by
  simpa using seen_scanFrom n l (init a0) [] (seen_init n a0)

end Lou.PosMap

-- `scan` and `clampArr` as the drivers call them; in the namespace of C07, whose checks name them there
namespace Lou.C07
open Lou.PosMap

theorem clampArr_range (n : Int) (m : Nat) (pm : List Int) (h : 0 < n) :
    ∀ x ∈ clampArr n m pm, 0 ≤ x ∧ x < n :=
  List.forall_mem_map.mpr fun p _ => clamp_range n p h

theorem scan_mono (n : Int) (m : Nat) (pm : List Int) (a0 : Int → Int) {i j : Int}
    (hi : 0 ≤ i) (hij : i ≤ j) (hj : j < n) : scan n m pm a0 i ≤ scan n m pm a0 j :=
  (seen_scan n _ a0).mono i j hi hij hj

theorem scan_lt (n : Int) (m : Nat) (pm : List Int) (a0 : Int → Int) {i : Int} (hi : 0 ≤ i) (hn : i < n) :
    scan n m pm a0 i < (pm.take m).length :=
  (seen_scan n _ a0).lt i hi hn

theorem scan_nonneg (n : Int) (m : Nat) (pm : List Int) (a0 : Int → Int) {i : Int} (hi : 0 ≤ i) (hn : i < n)
    (hex : ∃ p ∈ pm.take m, 0 ≤ p) : 0 ≤ scan n m pm a0 i :=
  -- `inpos` ends at or above the non-negative entry
  have ⟨p, hp, hp0⟩ := hex
  have h := seen_scan n (pm.take m) a0
  h.nonneg (Int.le_trans hp0 (h.top p hp)) i hi hn

theorem scan_clamp_le (n : Int) (m : Nat) (pm : List Int) (a0 : Int → Int) (hn : 0 < n)
    (k : Nat) (hk : k < (pm.take m).length) (h0 : 0 ≤ (pm.take m)[k]) :
    scan n m pm a0 (clamp n ((pm.take m)[k])) ≤ k :=
  have hc := clamp_range n ((pm.take m)[k]) hn
  (seen_scan n (pm.take m) a0).back k hk _ hc.1 (clamp_le_of_nonneg n _ h0) hc.2

end Lou.C07
