/-
  The two pass loops of `LouModel/Driver.lean` as folds (induction over a run, a relation between two runs,
  congruence in the arguments), the ways a backward step ends and what it sets in every case, and the equations of
  the cell encoding and of the two final stages.
-/
import LouModel.Driver

namespace Lou.Drv

theorem foldl_induction_done {α β : Type} {P : List α → β → Prop} (f : β → α → β)
    (step : ∀ done s x, P done s → P (done ++ [x]) (f s x)) :
    ∀ (l done : List α) (s : β), P done s → P (done ++ l) (l.foldl f s) := by
  intro l
  induction l with
  | nil => intro done s h; simpa using h
  | cons x l ih => intro done s h; simpa using ih (done ++ [x]) (f s x) (step done s x h)

def fwdStart (a : Args) : FwdState :=
  { input := cutAtNul a.inbuf, posMapping := [], output := [], cpos := (fwdCursorInit a).1,
    cstat := (fwdCursorInit a).2, hist := [], first := true }

abbrev fwdStepOf (e : Engine) (a : Args) : FwdState → Nat → FwdState :=
  fwdStep e (initFwd a (cutAtNul a.inbuf)) a.outlen

theorem fwdRun_eq_foldl (t : TableInfo) (e : Engine) (a : Args) :
    fwdRun t e a = (fwdPassList t).foldl (fwdStepOf e a) (fwdStart a) := rfl

theorem fwdRun_induction_done {P : List Nat → FwdState → Prop} (t : TableInfo) (e : Engine) (a : Args)
    (init : P [] (fwdStart a))
    (step : ∀ done s p, P done s → P (done ++ [p]) (fwdStepOf e a s p)) :
    P (fwdPassList t) (fwdRun t e a) :=
  fwdRun_eq_foldl t e a ▸ foldl_induction_done _ step (fwdPassList t) [] _ init

theorem fwdRun_induction {P : FwdState → Prop} (t : TableInfo) (e : Engine) (a : Args)
    (init : P (fwdStart a)) (step : ∀ s p, P s → P (fwdStepOf e a s p)) :
    P (fwdRun t e a) :=
  fwdRun_induction_done (P := fun _ => P) t e a init fun _ => step

/-- the pass list is never empty (the loop is a do-while), so the induction can start after the first pass: for
    an invariant that the state before the first pass does not satisfy (`Contract.FwdInv`; backward `C02.BackInv`
    holds from the start) -/
theorem fwdRun_induction_first {P : FwdState → Prop} (t : TableInfo) (e : Engine) (a : Args)
    (first : ∀ p, P (fwdStepOf e a (fwdStart a) p))
    (step : ∀ s p, P s → P (fwdStepOf e a s p)) :
    P (fwdRun t e a) :=
  (fwdRun_induction_done (P := fun done s => (done = [] ∧ s = fwdStart a) ∨ P s) t e a (.inl ⟨rfl, rfl⟩)
    fun _ s p h => .inr (h.elim (fun h => h.2 ▸ first p) (step s p))).elim (fun h => nomatch h.1) id

theorem fwdRun_rel {R : FwdState → FwdState → Prop} (t : TableInfo) (e e' : Engine) (a a' : Args)
    (init : R (fwdStart a) (fwdStart a'))
    (step : ∀ s s' p, R s s' → R (fwdStepOf e a s p) (fwdStepOf e' a' s' p)) :
    R (fwdRun t e a) (fwdRun t e' a') :=
  fwdRun_eq_foldl t e a ▸ fwdRun_eq_foldl t e' a' ▸ List.foldl_rel init fun p _ s s' h => step s s' p h

theorem fwdRun_congr (t : TableInfo) (e : Engine) {a a' : Args}
    (hin : a.inbuf = a'.inbuf) (hout : a.outlen = a'.outlen) (hcur : a.cursor = a'.cursor)
    (he : ∀ hist pin, e (initFwd a (cutAtNul a.inbuf)) hist pin = e (initFwd a' (cutAtNul a'.inbuf)) hist pin) :
    fwdRun t e a = fwdRun t e a' := by
  refine fwdRun_rel (R := Eq) t e e a a' (by simp [fwdStart, fwdCursorInit, hin, hcur]) ?_
  rintro s _ p rfl
  simp only [fwdStep, he, hout]

@[simp] theorem decodeInput_length (mode : Nat) (f : Nat → Nat) (l : List Nat) :
    (decodeInput mode f l).length = l.length := by
  simp [decodeInput]

/-- the `EngInit` that `backRun` hands its engines (forward it is the model's `initFwd`) -/
def backEngInit (a : Args) : EngInit := { mode := a.mode, typebuf := [], haveEmphasis := false, srcSpacing := none }

def backStart (dotsFor : Nat → Nat) (a : Args) : BackState :=
  { input := decodeInput a.mode dotsFor (cutAtNul a.inbuf), posMapping := [], output := [],
    inlen := (cutAtNul a.inbuf).length, cpos := match a.cursor with | some c => c | none => -1,
    cstat := 0, hist := [], first := true, failed := false }

abbrev backStepOf (e : Engine) (a : Args) : BackState → Nat → BackState := backStep e (backEngInit a) a.outlen

theorem backRun_eq_foldl (t : TableInfo) (dotsFor : Nat → Nat) (e : Engine) (a : Args) :
    backRun t dotsFor e a = (backPassList t).foldl (backStepOf e a) (backStart dotsFor a) := rfl

theorem backRun_induction_done {P : List Nat → BackState → Prop} (t : TableInfo) (dotsFor : Nat → Nat) (e : Engine)
    (a : Args) (init : P [] (backStart dotsFor a))
    (step : ∀ done s p, P done s → P (done ++ [p]) (backStepOf e a s p)) :
    P (backPassList t) (backRun t dotsFor e a) :=
  backRun_eq_foldl t dotsFor e a ▸ foldl_induction_done _ step (backPassList t) [] _ init

theorem backRun_induction {P : BackState → Prop} (t : TableInfo) (dotsFor : Nat → Nat) (e : Engine) (a : Args)
    (init : P (backStart dotsFor a)) (step : ∀ s p, P s → P (backStepOf e a s p)) :
    P (backRun t dotsFor e a) :=
  backRun_induction_done (P := fun _ => P) t dotsFor e a init fun _ => step

theorem backRun_rel {R : BackState → BackState → Prop} (t : TableInfo) (d d' : Nat → Nat) (e e' : Engine) (a a' : Args)
    (init : R (backStart d a) (backStart d' a'))
    (step : ∀ s s' p, R s s' → R (backStepOf e a s p) (backStepOf e' a' s' p)) :
    R (backRun t d e a) (backRun t d' e' a') :=
  backRun_eq_foldl t d e a ▸ backRun_eq_foldl t d' e' a' ▸
    List.foldl_rel init fun p _ s s' h => step s s' p h

/-- `hin`: the run sees the caller's input only decoded (C09 compares calls whose `inbuf` and `mode` both differ) -/
theorem backRun_congr (t : TableInfo) (e : Engine) {d d' : Nat → Nat} {a a' : Args}
    (hin : decodeInput a.mode d (cutAtNul a.inbuf) = decodeInput a'.mode d' (cutAtNul a'.inbuf))
    (hout : a.outlen = a'.outlen) (hcur : a.cursor = a'.cursor)
    (he : ∀ hist pin, e (backEngInit a) hist pin = e (backEngInit a') hist pin) :
    backRun t d e a = backRun t d' e a' := by
  have hlen : (cutAtNul a.inbuf).length = (cutAtNul a'.inbuf).length := by
    simpa using congrArg List.length hin
  refine backRun_rel (R := Eq) t d d' e e a a' (by simp only [backStart, hin, hlen, hcur]) ?_
  rintro s _ p rfl
  simp only [backStep, he, hout]

section
variable (s : BackState) (input : List Nat) (pin : PassIn) (po : PassOut)

-- `backStepOk` computes `posMapping` and `inlen` in one of two ways; the fields below are the same in both: a field
-- of an `if` is the `if` of the fields
@[simp] theorem backStepOk_input : (backStepOk s input pin po).input = input :=
  (apply_ite BackState.input ..).trans (ite_self _)
@[simp] theorem backStepOk_output : (backStepOk s input pin po).output = po.out :=
  (apply_ite BackState.output ..).trans (ite_self _)
@[simp] theorem backStepOk_hist : (backStepOk s input pin po).hist = s.hist ++ [(pin, po)] :=
  (apply_ite BackState.hist ..).trans (ite_self _)
@[simp] theorem backStepOk_first : (backStepOk s input pin po).first = false :=
  (apply_ite BackState.first ..).trans (ite_self _)
@[simp] theorem backStepOk_failed : (backStepOk s input pin po).failed = false :=
  (apply_ite BackState.failed ..).trans (ite_self _)

end

/-- `fwdStep` has no such lemma: it is a single record, two fields of which test `s.first`, and its users unfold it -/
theorem backStep_elim {P : BackState → Prop} (e : Engine) (ini : EngInit) (cap : Nat) (s : BackState) (p : Nat)
    (failed : s.failed = true → P s)
    (fails : s.failed = false → P { s with failed := true })
    (ok : s.failed = false → ∀ input, input = (if s.first then s.input else s.output) → ∀ pin : PassIn,
      pin = { passNo := p, chars := input, maxlen := cap, cpos := s.cpos, cstat := s.cstat } →
      P (backStepOk s input pin (e ini s.hist pin))) :
    P (backStep e ini cap s p) := by
  unfold backStep
  split
  next h => exact failed h
  next h =>
    generalize hi : (if s.first then s.input else s.output) = input
    dsimp only
    split
    · exact fails (by simpa using h)
    · exact ok (by simpa using h) _ hi.symm _ rfl

@[simp] theorem fwd_none (disp : Nat → Nat) (e : Engine) (a : Args) : fwd none disp e a = failResult a 1 := rfl
@[simp] theorem fwd_some (t : TableInfo) (disp : Nat → Nat) (e : Engine) (a : Args) :
    fwd (some t) disp e a = fwdFinish disp a (fwdRun t e a) := rfl
@[simp] theorem back_none (d : Nat → Nat) (e : Engine) (a : Args) : back none d e a = failResult a 1 := rfl
@[simp] theorem back_some (t : TableInfo) (d : Nat → Nat) (e : Engine) (a : Args) :
    back (some t) d e a = backFinish a (backRun t d e a) := rfl

theorem encodeCell_eq_none {mode : Nat} {disp : Nat → Nat} {c : Nat} :
    encodeCell mode disp c = none ↔ hasBit mode mDotsIO = false ∧ disp c = 0 := by
  unfold encodeCell
  cases hasBit mode mDotsIO
  · simp
  · simp only [if_true]; split <;> simp

theorem encodeCell_default {mode : Nat} {disp : Nat → Nat} {c : Nat} (hm : hasBit mode mDotsIO = false)
    (hz : disp c ≠ 0) : encodeCell mode disp c = some (disp c) := by
  simp [encodeCell, hm, hz]

theorem encodeCell_dotsIO {mode : Nat} {disp : Nat → Nat} {c : Nat} (hm : hasBit mode mDotsIO = true)
    (hu : hasBit mode mUcBrl = false) : encodeCell mode disp c = some c := by
  simp [encodeCell, hm, hu]

theorem encodeCell_ucBrl {mode : Nat} {disp : Nat → Nat} {c : Nat} (hm : hasBit mode mDotsIO = true)
    (hu : hasBit mode mUcBrl = true) : encodeCell mode disp c = some ((c &&& 0xff) ||| LOU_ROW_BRAILLE) := by
  simp [encodeCell, hm, hu]

/-- what `fwdFinish` returns once every cell has an encoding; `outbuf` is the encoded output -/
def fwdOk (a : Args) (s : FwdState) (outbuf : List Nat) : Result :=
  let olen := s.output.length
  let inlen' : Int := s.posMapping.getD olen 0
  let opFun := PosMap.scan inlen' olen s.posMapping (fun _ => -1)
  { ret := 1, inlen := inlen', outlen := olen, outbuf := outbuf,
    typeform := a.typeform.map (fun _ => s.output.map typeformCell),
    outputPos := if a.wantOutputPos then some ((List.range inlen'.toNat).map fun (i : Nat) => opFun (i : Int)) else none,
    inputPos := if a.wantInputPos then some (PosMap.clampArr inlen' olen s.posMapping) else none,
    cursor := match a.cursor with
      | none => none
      | some c => if c != -1 then (if a.wantOutputPos then some (opFun c) else some s.cpos) else some c }

theorem fwdFinish_of_none {disp : Nat → Nat} {a : Args} {s : FwdState}
    (h : ∃ c ∈ s.output, encodeCell a.mode disp c = none) : fwdFinish disp a s = failResult a 1 := by
  obtain ⟨c, hc, hn⟩ := h
  have : (s.output.map (encodeCell a.mode disp)).any Option.isNone = true :=
    List.any_eq_true.mpr ⟨none, List.mem_map.mpr ⟨c, hc, hn⟩, rfl⟩
  simp only [fwdFinish, this, if_true]

theorem fwdFinish_of_some {disp : Nat → Nat} {a : Args} {s : FwdState} {f : Nat → Nat}
    (h : ∀ c ∈ s.output, encodeCell a.mode disp c = some (f c)) :
    fwdFinish disp a s = fwdOk a s (s.output.map f) := by
  have : s.output.map (encodeCell a.mode disp) = (s.output.map f).map some := by
    rw [List.map_map]; exact List.map_congr_left h
  cases hc : a.cursor <;> simp [fwdFinish, fwdOk, this, hc]

theorem fwdFinish_cases (disp : Nat → Nat) (a : Args) (s : FwdState) :
    ((∃ c ∈ s.output, encodeCell a.mode disp c = none) ∧ fwdFinish disp a s = failResult a 1) ∨
    ∃ f : Nat → Nat, (∀ c ∈ s.output, encodeCell a.mode disp c = some (f c)) ∧
      fwdFinish disp a s = fwdOk a s (s.output.map f) := by
  by_cases h : ∃ c ∈ s.output, encodeCell a.mode disp c = none
  · exact .inl ⟨h, fwdFinish_of_none h⟩
  · have hs : ∀ c ∈ s.output, encodeCell a.mode disp c = some ((encodeCell a.mode disp c).getD 0) := by
      intro c hc
      cases hn : encodeCell a.mode disp c with
      | some _ => rfl
      | none => exact absurd ⟨c, hc, hn⟩ h
    exact .inr ⟨_, hs, fwdFinish_of_some hs⟩

theorem fwdFinish_ret_zero_iff {disp : Nat → Nat} {a : Args} {s : FwdState} :
    (fwdFinish disp a s).ret = 0 ↔ ∃ c ∈ s.output, encodeCell a.mode disp c = none := by
  rcases fwdFinish_cases disp a s with ⟨hn, h'⟩ | ⟨f, hf, h'⟩ <;> rw [h']
  · exact ⟨fun _ => hn, fun _ => rfl⟩
  · refine ⟨nofun, fun ⟨c, hc, hn⟩ => ?_⟩
    rw [hf c hc] at hn; cases hn

theorem fwdFinish_default {disp : Nat → Nat} {a : Args} {s : FwdState} (hm : hasBit a.mode mDotsIO = false)
    (h : (fwdFinish disp a s).ret = 1) :
    (∀ c ∈ s.output, disp c ≠ 0) ∧ fwdFinish disp a s = fwdOk a s (s.output.map disp) := by
  have hnz : ∀ c ∈ s.output, disp c ≠ 0 := fun c hc hz =>
    absurd (fwdFinish_ret_zero_iff.mpr ⟨c, hc, encodeCell_eq_none.mpr ⟨hm, hz⟩⟩) (by rw [h]; decide)
  exact ⟨hnz, fwdFinish_of_some fun c hc => encodeCell_default hm (hnz c hc)⟩

theorem fwdFinish_of_ret {disp : Nat → Nat} {a : Args} {s : FwdState} (h : (fwdFinish disp a s).ret = 1) :
    ∃ outbuf, fwdFinish disp a s = fwdOk a s outbuf := by
  rcases fwdFinish_cases disp a s with ⟨-, e⟩ | ⟨f, -, e⟩
  · rw [e] at h; cases h
  · exact ⟨_, e⟩

/-- what `backFinish` returns unless a pass has failed.  `-7777`, as there: a marker for what the caller's `inputPos`
    held before the call (the C does not pre-fill it, as it does `outputPos` forward with −1) -/
def backOk (a : Args) (s : BackState) : Result :=
  let olen := s.output.length
  let outputPos := PosMap.clampArr olen s.inlen.toNat s.posMapping
  let ipFun := PosMap.scan olen s.inlen.toNat s.posMapping (fun _ => -7777)
  { ret := 1, inlen := s.inlen, outlen := olen, outbuf := s.output, typeform := none,
    outputPos := if a.wantOutputPos then some outputPos else none,
    inputPos := if a.wantInputPos then some ((List.range olen).map fun (i : Nat) => ipFun (i : Int)) else none,
    cursor := match a.cursor with
      | none => none
      | some c =>
        if c != -1 then (if a.wantOutputPos then some (outputPos.getD c.toNat (-1)) else some s.cpos) else some c }

theorem backFinish_of_failed {a : Args} {s : BackState} (h : s.failed = true) : backFinish a s = failResult a 0 :=
  if_pos h

theorem backFinish_of_ok {a : Args} {s : BackState} (h : s.failed = false) : backFinish a s = backOk a s :=
  if_neg (by simp [h])

theorem backFinish_cases (a : Args) (s : BackState) :
    (s.failed = true ∧ backFinish a s = failResult a 0) ∨ (s.failed = false ∧ backFinish a s = backOk a s) := by
  cases h : s.failed
  · exact .inr ⟨rfl, backFinish_of_ok h⟩
  · exact .inl ⟨rfl, backFinish_of_failed h⟩

theorem backFinish_ret_zero_iff {a : Args} {s : BackState} : (backFinish a s).ret = 0 ↔ s.failed = true := by
  rcases backFinish_cases a s with ⟨h, e⟩ | ⟨h, e⟩ <;> rw [e, h]
  · exact ⟨fun _ => rfl, fun _ => rfl⟩
  · exact ⟨nofun, nofun⟩

theorem backFinish_of_ret {a : Args} {s : BackState} (h : (backFinish a s).ret = 1) :
    backFinish a s = backOk a s := by
  rcases backFinish_cases a s with ⟨-, e⟩ | ⟨-, e⟩
  · rw [e] at h; cases h
  · exact e

theorem backFinish_congr {a a' : Args} (s : BackState) (hlen : a.inbuf.length = a'.inbuf.length)
    (hout : a.outlen = a'.outlen) (hcur : a.cursor = a'.cursor) (hop : a.wantOutputPos = a'.wantOutputPos)
    (hip : a.wantInputPos = a'.wantInputPos) : backFinish a s = backFinish a' s := by
  rcases backFinish_cases a s with ⟨h, e⟩ | ⟨h, e⟩
  · rw [e, backFinish_of_failed h]; simp only [failResult, hlen, hout, hcur]
  · rw [e, backFinish_of_ok h]; simp only [backOk, hcur, hop, hip]

end Lou.Drv
