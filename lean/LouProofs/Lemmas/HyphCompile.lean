/-
  compileDict builds the automaton of its pattern list (`compileDict_ok`), for every pattern
  list whose states can be numbered below the sentinel `DEFAULTSTATE`.  The hash table is read
  as a relation `Keyed` between state numbers and strings; `CInv` says that it is a bijection
  and that the transitions are those of the trie of the keys, missing only into the states
  still to be linked (`orph`).  Each write (newState, addTrans, setPat) keeps that, a whole
  dictionary line leaves no state unlinked (`addPattern_spec`), and the fallback pass makes
  the trie of all lines (`PInv`) the automaton (`setFallbacks_ok`).
-/
import LouModel.Hyph
import LouProofs.Lemmas.Hyph

namespace Lou.Hyph
open List

theorem lt_of_getElem? {d : Dict} {i : Nat} {s : HState} (hs : d[i]? = some s) : i < d.size :=
  (Array.getElem?_eq_some_iff.mp hs).1

theorem modifyAt_size (a : Array HState) (i : Nat) (f : HState → HState) :
    (modifyAt a i f).size = a.size := by
  unfold modifyAt; split <;> simp

theorem modifyAt_get? (a : Array HState) (i j : Nat) (f : HState → HState) :
    (modifyAt a i f)[j]? = if j = i then a[j]?.map f else a[j]? := by
  unfold modifyAt
  split
  · rename_i h
    rw [Array.getElem?_set]
    by_cases c : i = j
    · subst c; simp [h]
    · simp [c, Ne.symm c]
  · rename_i h
    by_cases c : j = i
    · subst c; simp [Array.getElem?_eq_none (Nat.le_of_not_lt h)]
    · simp [c]

theorem lookup_some {hash : List (List Nat × Nat)} {k : List Nat} {v : Nat}
    (h : hash.lookup k = some v) : (k, v) ∈ hash := by
  obtain ⟨l₁, l₂, rfl, _⟩ := lookup_eq_some_iff.mp h
  simp

theorem lookup_none {hash : List (List Nat × Nat)} {k : List Nat}
    (h : hash.lookup k = none) : ∀ v, (k, v) ∉ hash := fun v hv => by
  simpa using lookup_eq_none_iff.mp h _ hv

theorem lk_of_mem {hash : List (List Nat × Nat)} {k : List Nat} {v : Nat}
    (h : (k, v) ∈ hash) : ∃ v', hash.lookup k = some v' := by
  cases hl : hash.lookup k with
  | some v' => exact ⟨v', rfl⟩
  | none => exact absurd h (lookup_none hl v)

/-- `i` is the state of the string `k`.  It reads the hash table alone, so `addTrans` and `setPat` leave it as it
    is by definition (`keyed_addTrans`, `keyed_setPat`), and the proofs below pass it through them unconverted -/
def Keyed (cs : CState) (i : Nat) (k : List Nat) : Prop := (i = 0 ∧ k = []) ∨ (k, i) ∈ cs.hash

/-- structural invariant of the loop of compileHyphenation.  `rng` … `surj`: the hash table is a
    bijection between its keys, all non-empty, and the states 1 … size−1 (`Keyed` adds state 0
    for the empty key).  `tsound`, `tcompl`: the transitions are exactly the pairs of a key and
    its extension by one character, except that the states in `orph` do not have their incoming
    transition yet.  `fbdef`: no fallback is set before `setFallbacks`.  The bound in `size_le`
    is `DEFAULTSTATE`: no state number is the "not found" of `lookupH`. -/
structure CInv (cs : CState) (orph : List Nat) : Prop where
  size_pos : 0 < cs.states.size
  size_le : cs.states.size ≤ 0xffffffff
  rng : ∀ k v, (k, v) ∈ cs.hash → k ≠ [] ∧ 0 < v ∧ v < cs.states.size
  kinj : ∀ k v v', (k, v) ∈ cs.hash → (k, v') ∈ cs.hash → v = v'
  vinj : ∀ k k' v, (k, v) ∈ cs.hash → (k', v) ∈ cs.hash → k = k'
  surj : ∀ v, 0 < v → v < cs.states.size → ∃ k, (k, v) ∈ cs.hash
  tsound : ∀ (i : Nat) (s : HState), cs.states[i]? = some s → ∀ ch tgt, (ch, tgt) ∈ s.trans →
    ∃ k, Keyed cs i k ∧ Keyed cs tgt (k ++ [ch])
  tcompl : ∀ k ch tgt, Keyed cs tgt (k ++ [ch]) → tgt ∉ orph →
    ∃ i s, Keyed cs i k ∧ cs.states[i]? = some s ∧ (ch, tgt) ∈ s.trans
  fbdef : ∀ (i : Nat) (s : HState), cs.states[i]? = some s → s.fallback = DEFAULTSTATE

theorem Keyed.lt {cs : CState} {o : List Nat} (inv : CInv cs o) {i : Nat} {k : List Nat}
    (h : Keyed cs i k) : i < cs.states.size := by
  rcases h with ⟨rfl, _⟩ | h
  · exact inv.size_pos
  · exact (inv.rng _ _ h).2.2

theorem Keyed.unique {cs : CState} {o : List Nat} (inv : CInv cs o) {i j : Nat} {k : List Nat}
    (h1 : Keyed cs i k) (h2 : Keyed cs j k) : i = j := by
  rcases h1 with ⟨rfl, rfl⟩ | h1 <;> rcases h2 with ⟨rfl, h2⟩ | h2
  · rfl
  · exact absurd rfl (inv.rng _ _ h2).1
  · exact absurd h2 (inv.rng _ _ h1).1
  · exact inv.kinj _ _ _ h1 h2

theorem Keyed.inj {cs : CState} {o : List Nat} (inv : CInv cs o) {i : Nat} {k k' : List Nat}
    (h1 : Keyed cs i k) (h2 : Keyed cs i k') : k = k' := by
  rcases h1 with ⟨rfl, rfl⟩ | h1 <;> rcases h2 with ⟨h, h2⟩ | h2
  · exact h2.symm
  · have := (inv.rng _ _ h2).2.1; omega
  · subst h; have := (inv.rng _ _ h1).2.1; omega
  · exact inv.vinj _ _ _ h1 h2

theorem lookupH_cases {cs : CState} {o : List Nat} (inv : CInv cs o) (k : List Nat) :
    (lookupH cs.hash k ≠ DEFAULTSTATE ∧ Keyed cs (lookupH cs.hash k) k) ∨
    (lookupH cs.hash k = DEFAULTSTATE ∧ ∀ i, ¬ Keyed cs i k) := by
  unfold lookupH
  cases k with
  | nil => exact Or.inl ⟨show 0 ≠ DEFAULTSTATE by decide, Or.inl ⟨rfl, rfl⟩⟩
  | cons a k =>
    rw [if_neg (by simp)]
    cases hl : cs.hash.lookup (a :: k) with
    | none => exact Or.inr ⟨rfl, fun i hi => hi.elim (fun h => by cases h.2) (lookup_none hl i)⟩
    | some v =>
      -- a state number lies below the number of states, which is at most the sentinel
      exact Or.inl ⟨Nat.ne_of_lt (Nat.lt_of_lt_of_le (inv.rng _ _ (lookup_some hl)).2.2 inv.size_le),
        Or.inr (lookup_some hl)⟩

theorem lookupH_keyed {cs : CState} {o : List Nat} (inv : CInv cs o) {k : List Nat} {i : Nat}
    (h : Keyed cs i k) : lookupH cs.hash k = i ∧ i ≠ DEFAULTSTATE := by
  rcases lookupH_cases inv k with ⟨hf, hk⟩ | ⟨_, hmiss⟩
  · cases Keyed.unique inv hk h
    exact ⟨rfl, hf⟩
  · exact absurd h (hmiss i)

/-- the `hyphenPattern` field of state `i` (`none` also beyond the array) -/
def patAt (cs : CState) (i : Nat) : Option (List Nat) := (cs.states[i]?).bind (·.pat)

theorem keyed_newState (cs : CState) (key : List Nat) (i : Nat) (k : List Nat) :
    Keyed (newState cs key).1 i k ↔ Keyed cs i k ∨ (i = cs.states.size ∧ k = key) := by
  unfold Keyed newState
  rw [mem_cons, Prod.mk.injEq, or_assoc, and_comm (a := k = key), or_comm (a := (k, i) ∈ cs.hash)]

theorem newState_get? (cs : CState) (key : List Nat) (i : Nat) :
    (newState cs key).1.states[i]? = if i = cs.states.size then some {} else cs.states[i]? := by
  simp only [newState]
  rw [Array.getElem?_push]

theorem newState_size (cs : CState) (key : List Nat) : (newState cs key).1.states.size = cs.states.size + 1 :=
  Array.size_push _

theorem newState_inv {cs : CState} {o : List Nat} (inv : CInv cs o) (key : List Nat)
    (hnew : ∀ i, ¬ Keyed cs i key) (hne : key ≠ []) (hsz : cs.states.size + 1 ≤ DEFAULTSTATE) :
    CInv (newState cs key).1 (o ++ [cs.states.size]) := by
  have hmem : ∀ k v, (k, v) ∈ (newState cs key).1.hash ↔ (k = key ∧ v = cs.states.size) ∨ (k, v) ∈ cs.hash := by
    simp [newState]
  have hback : ∀ (i : Nat) (s : HState), (newState cs key).1.states[i]? = some s →
      cs.states[i]? = some s ∨ s = {} := by
    intro i s hs
    rw [newState_get?] at hs
    split at hs
    · cases hs; exact Or.inr rfl
    · exact Or.inl hs
  have hold := fun i k (h : Keyed cs i k) => (keyed_newState cs key i k).mpr (Or.inl h)
  refine ⟨?_, ?_, ?_, ?_, ?_, ?_, ?_, ?_, ?_⟩
  · rw [newState_size]; exact Nat.succ_pos _
  · rw [newState_size]; exact hsz
  · intro k v h
    rw [newState_size]
    rcases (hmem k v).mp h with ⟨rfl, rfl⟩ | h
    · exact ⟨hne, inv.size_pos, Nat.lt_succ_self _⟩
    · exact (inv.rng k v h).imp id (.imp id Nat.lt_succ_of_lt)
  · intro k v v' h h'
    rcases (hmem k v).mp h with ⟨rfl, rfl⟩ | h <;> rcases (hmem k v').mp h' with ⟨e, rfl⟩ | h'
    · rfl
    · exact absurd (Or.inr h') (hnew v')
    · exact absurd (Or.inr (e ▸ h)) (hnew v)
    · exact inv.kinj _ _ _ h h'
  · intro k k' v h h'
    have a := (hmem k v).mp h
    have b := (hmem k' v).mp h'
    rcases a with ⟨rfl, rfl⟩ | a <;> rcases b with ⟨rfl, e⟩ | b
    · rfl
    · exact absurd (inv.rng _ _ b).2.2 (Nat.lt_irrefl _)
    · exact absurd (e ▸ (inv.rng _ _ a).2.2) (Nat.lt_irrefl _)
    · exact inv.vinj _ _ _ a b
  · intro v h1 h2
    rw [newState_size] at h2
    rcases Nat.eq_or_lt_of_le (Nat.le_of_lt_succ h2) with rfl | h
    · exact ⟨key, (hmem ..).mpr (Or.inl ⟨rfl, rfl⟩)⟩
    · obtain ⟨k, hk⟩ := inv.surj v h1 h
      exact ⟨k, (hmem ..).mpr (Or.inr hk)⟩
  · intro i s hs ch tgt hm
    rcases hback i s hs with h | rfl
    · obtain ⟨k, a, b⟩ := inv.tsound i s h ch tgt hm
      exact ⟨k, hold _ _ a, hold _ _ b⟩
    · cases hm
  · intro k ch tgt hk ho
    rw [mem_append, mem_singleton, not_or] at ho
    rcases (keyed_newState ..).mp hk with hk | ⟨e, _⟩
    · obtain ⟨i, s, a, b, c⟩ := inv.tcompl k ch tgt hk ho.1
      exact ⟨i, s, hold _ _ a, by rw [newState_get?, if_neg (Nat.ne_of_lt (a.lt inv)), b], c⟩
    · exact absurd e ho.2
  · intro i s hs
    rcases hback i s hs with h | rfl
    · exact inv.fbdef i s h
    · rfl

theorem patAt_newState (cs : CState) (key : List Nat) (i : Nat) :
    patAt (newState cs key).1 i = patAt cs i := by
  unfold patAt
  rw [newState_get?]
  by_cases c : i = cs.states.size
  · subst c
    simp
  · simp [c]

theorem keyed_addTrans (cs : CState) (s1 s2 ch i : Nat) (k : List Nat) :
    Keyed (addTrans cs s1 s2 ch) i k ↔ Keyed cs i k := Iff.rfl

theorem keyed_setPat (cs : CState) (st i : Nat) (p k : List Nat) :
    Keyed (setPat cs st p) i k ↔ Keyed cs i k := Iff.rfl

/-- a change to one state record: the hash table stays, so the invariant turns on the
    transitions the record gains and on its fallback.  `hcompl`: a state leaves the list of the
    unlinked only when `f` puts the transition into it on record `i`, the state of its key less
    the last character -/
theorem modify_inv {cs : CState} {o o' : List Nat} (inv : CInv cs o) (i : Nat) (f : HState → HState)
    (hfb : ∀ s, (f s).fallback = s.fallback)
    (hsound : ∀ s ch tgt, (ch, tgt) ∈ (f s).trans →
      (ch, tgt) ∈ s.trans ∨ ∃ k, Keyed cs i k ∧ Keyed cs tgt (k ++ [ch]))
    (hmono : ∀ s e, e ∈ s.trans → e ∈ (f s).trans)
    (hcompl : ∀ t, t ∉ o' → t ∉ o ∨ ∀ k ch, Keyed cs t (k ++ [ch]) → Keyed cs i k ∧ ∀ s, (ch, t) ∈ (f s).trans) :
    CInv { cs with states := modifyAt cs.states i f } o' := by
  have hback : ∀ (j : Nat) (s : HState), (modifyAt cs.states i f)[j]? = some s →
      ∃ s0, cs.states[j]? = some s0 ∧ (s = s0 ∨ (j = i ∧ s = f s0)) := by
    intro j s hs
    rw [modifyAt_get?] at hs
    by_cases e : j = i
    · rw [if_pos e] at hs
      obtain ⟨s0, h0, rfl⟩ := Option.map_eq_some_iff.mp hs
      exact ⟨s0, h0, Or.inr ⟨e, rfl⟩⟩
    · rw [if_neg e] at hs
      exact ⟨s, hs, Or.inl rfl⟩
  refine ⟨?_, ?_, ?_, inv.kinj, inv.vinj, ?_, ?_, ?_, ?_⟩
  · exact (modifyAt_size ..).symm ▸ inv.size_pos
  · exact (modifyAt_size ..).symm ▸ inv.size_le
  · exact (modifyAt_size ..).symm ▸ inv.rng
  · exact (modifyAt_size ..).symm ▸ inv.surj
  · intro j s hs c tgt hm
    obtain ⟨s0, h0, rfl | ⟨rfl, rfl⟩⟩ := hback j s hs
    · exact inv.tsound j s h0 c tgt hm
    · exact (hsound s0 c tgt hm).elim (inv.tsound j s0 h0 c tgt) id
  · intro k c tgt hk hno
    rcases hcompl tgt hno with h | h
    · obtain ⟨j, s, a, b, m⟩ := inv.tcompl k c tgt hk h
      by_cases e : j = i
      · exact ⟨j, f s, a, by rw [modifyAt_get?, if_pos e, b]; rfl, hmono s _ m⟩
      · exact ⟨j, s, a, by rw [modifyAt_get?, if_neg e, b], m⟩
    · obtain ⟨a, b⟩ := h k c hk
      exact ⟨i, f (cs.states[i]'(a.lt inv)), a,
        by rw [modifyAt_get?, if_pos rfl, Array.getElem?_eq_getElem (a.lt inv)]; rfl, b _⟩
  · intro j s hs
    obtain ⟨s0, h0, rfl | ⟨rfl, rfl⟩⟩ := hback j s hs
    · exact inv.fbdef j s h0
    · exact (hfb s0).trans (inv.fbdef j s0 h0)

theorem addTrans_inv {cs : CState} {o : List Nat} {s1 s2 ch : Nat} {k : List Nat} (inv : CInv cs (s2 :: o))
    (h1 : Keyed cs s1 k) (h2 : Keyed cs s2 (k ++ [ch])) : CInv (addTrans cs s1 s2 ch) o := by
  unfold addTrans
  -- the state number fits the `unsigned int` field
  rw [Nat.mod_eq_of_lt (by have := h2.lt inv; have := inv.size_le; omega)]
  refine modify_inv inv s1 _ (fun _ => rfl) (fun s c tgt hm => ?_) (fun s e he => mem_append_left _ he)
    (fun t ht => (Decidable.em (t = s2)).symm.imp (fun e => not_mem_cons_of_ne_of_not_mem e ht) ?_)
  · rcases mem_append.mp hm with hm | hm
    · exact Or.inl hm
    · cases mem_singleton.mp hm; exact Or.inr ⟨k, h1, h2⟩
  · rintro rfl k' c hk
    obtain ⟨rfl, h⟩ := append_inj' (Keyed.inj inv hk h2) rfl
    cases h
    exact ⟨h1, fun s => mem_append_right _ mem_cons_self⟩

theorem setPat_inv {cs : CState} {o : List Nat} (inv : CInv cs o) (st : Nat) (p : List Nat) :
    CInv (setPat cs st p) o :=
  modify_inv inv st _ (fun _ => rfl) (fun _ _ _ hm => Or.inl hm) (fun _ _ he => he) (fun _ ht => Or.inl ht)

theorem patAt_addTrans (cs : CState) (s1 s2 ch i : Nat) : patAt (addTrans cs s1 s2 ch) i = patAt cs i := by
  unfold patAt
  simp only [addTrans, modifyAt_get?]
  split
  · cases cs.states[i]? <;> rfl
  · rfl

theorem patAt_setPat (cs : CState) (st : Nat) (p : List Nat) (i : Nat) :
    patAt (setPat cs st p) i = if i = st ∧ st < cs.states.size then some p else patAt cs i := by
  unfold patAt
  simp only [setPat, modifyAt_get?]
  by_cases e : i = st
  · subst e
    by_cases hl : i < cs.states.size
    · simp [hl]
    · simp [hl]
  · simp [e]

theorem addTrans_size (cs : CState) (s1 s2 ch : Nat) : (addTrans cs s1 s2 ch).states.size = cs.states.size :=
  modifyAt_size ..

theorem setPat_size (cs : CState) (st : Nat) (p : List Nat) : (setPat cs st p).states.size = cs.states.size :=
  modifyAt_size ..

theorem linkUp_cons_eq (cs : CState) (ch : Nat) (rest : List Nat) (last : Nat) :
    linkUp cs (ch :: rest) last =
      if lookupH cs.hash rest.reverse ≠ DEFAULTSTATE then addTrans cs (lookupH cs.hash rest.reverse) last ch
      else linkUp (addTrans (newState cs rest.reverse).1 cs.states.size last ch) rest cs.states.size := by
  simp only [linkUp, newState]

theorem linkUp_size_le (rev : List Nat) (cs : CState) (last : Nat) :
    cs.states.size ≤ (linkUp cs rev last).states.size := by
  induction rev generalizing cs last with
  | nil => exact Nat.le_refl _
  | cons ch rest ih =>
    rw [linkUp_cons_eq]
    split
    · rw [addTrans_size]; exact Nat.le_refl _
    · have := ih (addTrans (newState cs rest.reverse).1 cs.states.size last ch) cs.states.size
      rw [addTrans_size, newState_size] at this
      exact Nat.le_of_succ_le this

theorem linkUp_inv (rev : List Nat) (cs : CState) (last : Nat) (inv : CInv cs [last])
    (hlast : Keyed cs last rev.reverse) (hne : rev ≠ []) (hsz : (linkUp cs rev last).states.size ≤ DEFAULTSTATE) :
    CInv (linkUp cs rev last) [] ∧
    (∀ i k, Keyed cs i k → Keyed (linkUp cs rev last) i k) ∧
    (∀ i k, Keyed (linkUp cs rev last) i k → Keyed cs i k ∨ (cs.states.size ≤ i ∧ k <+: rev.reverse)) ∧
    (∀ i, patAt (linkUp cs rev last) i = patAt cs i) := by
  induction rev generalizing cs last with
  | nil => exact absurd rfl hne
  | cons ch rest ih =>
    rw [reverse_cons] at hlast
    rw [linkUp_cons_eq] at hsz ⊢
    rcases lookupH_cases inv rest.reverse with ⟨hf, hk⟩ | ⟨hf, hmiss⟩
    · rw [if_pos hf]
      exact ⟨addTrans_inv inv hk hlast, fun i k h => h, fun i k h => Or.inl h,
        fun i => patAt_addTrans ..⟩
    · rw [if_neg (not_not_intro hf)] at hsz ⊢
      have hpne : rest.reverse ≠ [] := fun e => hmiss 0 (Or.inl ⟨rfl, e⟩)
      have hmono := linkUp_size_le rest (addTrans (newState cs rest.reverse).1 cs.states.size last ch) cs.states.size
      rw [addTrans_size, newState_size] at hmono
      have kn : Keyed (newState cs rest.reverse).1 cs.states.size rest.reverse :=
        (keyed_newState ..).mpr (Or.inr ⟨rfl, rfl⟩)
      have inv2 : CInv (addTrans (newState cs rest.reverse).1 cs.states.size last ch) [cs.states.size] :=
        addTrans_inv (newState_inv inv rest.reverse hmiss hpne (Nat.le_trans hmono hsz)) kn
          ((keyed_newState ..).mpr (Or.inl hlast))
      obtain ⟨r1, r2, r3, r4⟩ := ih _ cs.states.size inv2 kn (fun e => hpne (by rw [e]; rfl)) hsz
      refine ⟨r1, fun i k h => r2 i k ((keyed_newState ..).mpr (Or.inl h)), fun i k h => ?_,
        fun i => by rw [r4, patAt_addTrans, patAt_newState]⟩
      rw [reverse_cons]
      rcases r3 i k h with h | ⟨h1, h2⟩
      · rcases (keyed_newState ..).mp h with h | ⟨rfl, rfl⟩
        · exact Or.inl h
        · exact Or.inr ⟨Nat.le_refl _, prefix_append _ _⟩
      · rw [addTrans_size, newState_size] at h1
        exact Or.inr ⟨Nat.le_of_succ_le h1, h2.trans (prefix_append _ _)⟩

theorem keyed_of_prefix {cs : CState} (inv : CInv cs []) {i : Nat} {w k : List Nat}
    (h : Keyed cs i w) (hk : k <+: w) : ∃ i', Keyed cs i' k := by
  obtain ⟨t, rfl⟩ := hk
  induction t generalizing k i with
  | nil => exact ⟨i, by simpa using h⟩
  | cons c t ih =>
    obtain ⟨i', h'⟩ := ih (k := k ++ [c]) (by simpa using h)
    obtain ⟨i'', _, a, _, _⟩ := inv.tcompl _ _ _ h' (by simp)
    exact ⟨i'', a⟩

theorem addPattern_eq (cs : CState) (p : Pat) :
    addPattern cs p =
      if lookupH cs.hash p.letters ≠ DEFAULTSTATE then setPat cs (lookupH cs.hash p.letters) (stripZeros p.digits)
      else linkUp (setPat (newState cs p.letters).1 cs.states.size (stripZeros p.digits)) p.letters.reverse cs.states.size := by
  simp only [addPattern, newState]

theorem addPattern_size_le (cs : CState) (p : Pat) : cs.states.size ≤ (addPattern cs p).states.size := by
  rw [addPattern_eq]
  split
  · rw [setPat_size]; exact Nat.le_refl _
  · have := linkUp_size_le p.letters.reverse (setPat (newState cs p.letters).1 cs.states.size (stripZeros p.digits)) cs.states.size
    rw [setPat_size, newState_size] at this
    exact Nat.le_of_succ_le this

theorem addPattern_spec {cs : CState} (inv : CInv cs []) (p : Pat)
    (hsz : (addPattern cs p).states.size ≤ DEFAULTSTATE) :
    CInv (addPattern cs p) [] ∧
    (∀ i k, Keyed cs i k → Keyed (addPattern cs p) i k) ∧
    (∀ i k, Keyed (addPattern cs p) i k → Keyed cs i k ∨ (cs.states.size ≤ i ∧ k <+: p.letters)) ∧
    ∃ n, Keyed (addPattern cs p) n p.letters ∧
      ∀ i, patAt (addPattern cs p) i = if i = n then some (stripZeros p.digits) else patAt cs i := by
  rw [addPattern_eq] at hsz ⊢
  rcases lookupH_cases inv p.letters with ⟨hf, hk⟩ | ⟨hf, hmiss⟩
  · rw [if_pos hf]
    refine ⟨setPat_inv inv _ _, fun i k h => h, fun i k h => Or.inl h, _, hk, fun i => ?_⟩
    rw [patAt_setPat]
    simp only [hk.lt inv, and_true]
  · rw [if_neg (not_not_intro hf)] at hsz ⊢
    have hwne : p.letters ≠ [] := fun e => hmiss 0 (Or.inl ⟨rfl, e⟩)
    have hmono := linkUp_size_le p.letters.reverse
      (setPat (newState cs p.letters).1 cs.states.size (stripZeros p.digits)) cs.states.size
    rw [setPat_size, newState_size] at hmono
    have kn : Keyed (setPat (newState cs p.letters).1 cs.states.size (stripZeros p.digits)) cs.states.size
        p.letters.reverse.reverse := by
      rw [reverse_reverse]
      exact (keyed_newState ..).mpr (Or.inr ⟨rfl, rfl⟩)
    obtain ⟨r1, r2, r3, r4⟩ := linkUp_inv _ _ cs.states.size
      (setPat_inv (newState_inv inv p.letters hmiss hwne (Nat.le_trans hmono hsz)) _ _) kn (by simpa using hwne) hsz
    rw [reverse_reverse] at r3 kn
    refine ⟨r1, fun i k h => r2 i k ((keyed_newState ..).mpr (Or.inl h)), fun i k h => ?_, _, r2 _ _ kn, fun i => ?_⟩
    · rcases r3 i k h with h | ⟨h1, h2⟩
      · rcases (keyed_newState ..).mp h with h | ⟨rfl, rfl⟩
        · exact Or.inl h
        · exact Or.inr ⟨Nat.le_refl _, prefix_refl _⟩
      · rw [setPat_size, newState_size] at h1
        exact Or.inr ⟨Nat.le_of_succ_le h1, h2⟩
    · rw [r4, patAt_setPat, patAt_newState, newState_size]
      simp only [Nat.lt_succ_self, and_true]

/-- the compiler's state after the lines `ps` -/
structure PInv (ps : List Pat) (cs : CState) : Prop where
  inv : CInv cs []
  keys : ∀ k, (∃ i, Keyed cs i k) ↔ (k = [] ∨ isPatPrefix ps k = true)
  pats : ∀ i k, Keyed cs i k → patAt cs i = (digitsOf ps k).map stripZeros

theorem isPatPrefix_snoc (ps : List Pat) (p : Pat) (k : List Nat) :
    isPatPrefix (ps ++ [p]) k = true ↔ (isPatPrefix ps k = true ∨ k <+: p.letters) := by
  simp [isPatPrefix]

theorem digitsOf_snoc (ps : List Pat) (p : Pat) (k : List Nat) :
    digitsOf (ps ++ [p]) k = if p.letters = k then some p.digits else digitsOf ps k := by
  unfold digitsOf
  rw [reverse_append]
  by_cases c : p.letters = k
  · simp [c]
  · simp [c, show (p.letters == k) = false by simpa using c]

theorem addPattern_inv {ps : List Pat} {cs : CState} (pi : PInv ps cs) (p : Pat)
    (hsz : (addPattern cs p).states.size ≤ DEFAULTSTATE) : PInv (ps ++ [p]) (addPattern cs p) := by
  obtain ⟨inv', mono, new, n, hn, hpat⟩ := addPattern_spec pi.inv p hsz
  refine ⟨inv', fun k => ⟨?_, ?_⟩, fun i k hi => ?_⟩
  · rintro ⟨i, hi⟩
    rw [isPatPrefix_snoc]
    rcases new i k hi with h | h
    · exact ((pi.keys k).mp ⟨i, h⟩).imp_right Or.inl
    · exact Or.inr (Or.inr h.2)
  · rw [isPatPrefix_snoc]
    rintro (h | h | h)
    · exact ⟨0, Or.inl ⟨rfl, h⟩⟩
    · obtain ⟨i, hi⟩ := (pi.keys k).mpr (Or.inr h)
      exact ⟨i, mono i k hi⟩
    · exact keyed_of_prefix inv' hn h
  · rw [hpat, digitsOf_snoc]
    by_cases e : p.letters = k
    · subst e
      rw [if_pos (Keyed.unique inv' hi hn), if_pos rfl]; rfl
    · rw [if_neg (fun h => e (Keyed.inj inv' (by rw [h]; exact hn) hi)), if_neg e]
      rcases new i k hi with h | h
      · exact pi.pats i k h
      · -- a key created by this line: a new state, and no pattern so far has these letters
        by_cases hex : ∃ i', Keyed cs i' k
        · obtain ⟨i', hi'⟩ := hex
          exact Keyed.unique inv' (mono i' k hi') hi ▸ pi.pats i' k hi'
        · have hd : digitsOf ps k = none := Option.eq_none_iff_forall_ne_some.mpr fun ds hd =>
            hex ((pi.keys k).mpr (Or.inr (digitsOf_isPrefix hd)))
          rw [hd, patAt, Array.getElem?_eq_none h.1]; rfl

theorem initC_inv : PInv [] initC := by
  have hget : ∀ (i : Nat) (s : HState), initC.states[i]? = some s → s = {} := by
    intro i s hs
    obtain ⟨hi, rfl⟩ := Array.getElem?_eq_some_iff.mp hs
    have : i = 0 := Nat.lt_one_iff.mp hi
    subst this; rfl
  refine ⟨⟨Nat.one_pos, by decide, nofun, nofun, nofun, fun v h1 h2 => absurd h2 (Nat.not_lt.mpr h1), ?_, ?_, ?_⟩, ?_, ?_⟩
  · intro i s hs ch tgt hm
    rw [hget i s hs] at hm; cases hm
  · rintro k ch tgt (⟨_, h⟩ | h) _
    · simp at h
    · cases h
  · intro i s hs
    rw [hget i s hs]
  · intro k
    constructor
    · rintro ⟨i, ⟨_, h⟩ | h⟩
      · exact Or.inl h
      · cases h
    · rintro (h | h)
      · exact ⟨0, Or.inl ⟨rfl, h⟩⟩
      · cases h
  · rintro i k (⟨rfl, rfl⟩ | h)
    · rfl
    · cases h

theorem foldl_addPattern_size_le (ps : List Pat) (cs : CState) :
    cs.states.size ≤ (ps.foldl addPattern cs).states.size := by
  induction ps generalizing cs with
  | nil => exact Nat.le_refl _
  | cons p ps ih => exact Nat.le_trans (addPattern_size_le cs p) (ih _)

theorem foldl_addPattern_inv (ps ps0 : List Pat) (cs : CState) (pi : PInv ps0 cs)
    (hsz : (ps.foldl addPattern cs).states.size ≤ DEFAULTSTATE) : PInv (ps0 ++ ps) (ps.foldl addPattern cs) := by
  induction ps generalizing ps0 cs with
  | nil => simpa using pi
  | cons p ps ih =>
    have h1 := foldl_addPattern_size_le ps (addPattern cs p)
    simpa using ih (ps0 ++ [p]) (addPattern cs p) (addPattern_inv pi p (Nat.le_trans h1 hsz)) hsz

theorem compileC_inv (pats : List Pat) (h : (compileC pats).states.size ≤ DEFAULTSTATE) :
    PInv pats (compileC pats) :=
  foldl_addPattern_inv pats [] initC initC_inv h

theorem fbSearch_keyed {pats : List Pat} {cs : CState} (pi : PInv pats cs) (t : List Nat) :
    Keyed cs (fbSearch cs.hash t) (lssD (isPatPrefix pats) t) := by
  induction t with
  | nil => rw [lssD_nil]; exact Or.inl ⟨rfl, rfl⟩
  | cons c t ih =>
    rw [lssD_cons, fbSearch]
    rcases lookupH_cases pi.inv (c :: t) with ⟨hf, hk⟩ | ⟨hf, hmiss⟩
    · rw [if_pos hf, if_pos (((pi.keys (c :: t)).mp ⟨_, hk⟩).resolve_left (cons_ne_nil _ _))]
      exact hk
    · rw [if_neg (not_not_intro hf), if_neg fun h => (pi.keys (c :: t)).mpr (Or.inr h) |>.elim hmiss]
      exact ih

/-- one step of the loop over the hash-table entries -/
def fbStep (g : List Nat → Nat) (st : Array HState) (e : List Nat × Nat) : Array HState :=
  if e.2 ≠ 0 then modifyAt st e.2 (fun s => { s with fallback := g e.1 }) else st

theorem setFallbacks_eq (cs : CState) :
    setFallbacks cs = cs.hash.foldl (fbStep (fun k => fbSearch cs.hash k.tail % 4294967296)) cs.states := rfl

theorem foldl_fbStep_size (g : List Nat → Nat) (L : List (List Nat × Nat)) (st : Array HState) :
    (L.foldl (fbStep g) st).size = st.size := by
  induction L generalizing st with
  | nil => rfl
  | cons e L ih =>
    rw [foldl_cons, ih, fbStep]
    split
    · exact modifyAt_size ..
    · rfl

/-- every entry of a state writes the same value `G` (a state has one entry), so the order in
    which the loop visits the entries is immaterial -/
theorem foldl_fbStep_get? (g : List Nat → Nat) (G : Nat → Nat) (L : List (List Nat × Nat)) (st : Array HState)
    (hG : ∀ e ∈ L, e.2 ≠ 0 → g e.1 = G e.2) (i : Nat) :
    (L.foldl (fbStep g) st)[i]? =
      st[i]?.map fun s => if i ≠ 0 ∧ L.any (·.2 == i) = true then { s with fallback := G i } else s := by
  induction L generalizing st with
  | nil => simp
  | cons e L ih =>
    have h1 : (fbStep g st e)[i]? =
        st[i]?.map fun s => if i ≠ 0 ∧ e.2 = i then { s with fallback := G i } else s := by
      unfold fbStep
      by_cases c : e.2 ≠ 0
      · rw [if_pos c, hG e mem_cons_self c, modifyAt_get?]
        by_cases c2 : i = e.2
        · subst c2; simp [c]
        · simp [c2, Ne.symm c2]
      · rw [if_neg c]
        have : ¬ (i ≠ 0 ∧ e.2 = i) := fun h => c (h.2 ▸ h.1)
        simp [this]
    rw [foldl_cons, ih _ (fun e' he' => hG e' (mem_cons_of_mem _ he')), h1, Option.map_map]
    congr 1
    funext s
    simp only [Function.comp, any_cons, Bool.or_eq_true, beq_iff_eq]
    by_cases c0 : i ≠ 0 <;> by_cases c1 : e.2 = i <;> by_cases c2 : L.any (·.2 == i) = true <;> simp [c0, c1, c2]

/-- the string a state stands for, read off the hash table -/
def keyFn (cs : CState) (i : Nat) : List Nat :=
  match cs.hash.find? (fun e => e.2 == i) with
  | some e => e.1
  | none => []

theorem keyFn_of_keyed {cs : CState} {o : List Nat} (inv : CInv cs o) {i : Nat} {k : List Nat} (h : Keyed cs i k) :
    keyFn cs i = k := by
  unfold keyFn
  cases hf : cs.hash.find? (fun e => e.2 == i) with
  | none =>
    rcases h with ⟨_, rfl⟩ | h
    · rfl
    · simpa using find?_eq_none.mp hf (k, i) h
  | some e =>
    have h1 : e.2 = i := by simpa using find?_some hf
    exact Keyed.inj inv (Or.inr (h1 ▸ mem_of_find?_eq_some hf)) h

theorem keyed_keyFn {cs : CState} {o : List Nat} (inv : CInv cs o) {i : Nat} (hi : i < cs.states.size) :
    Keyed cs i (keyFn cs i) := by
  obtain ⟨k, hk⟩ : ∃ k, Keyed cs i k := by
    by_cases h0 : i = 0
    · exact ⟨[], Or.inl ⟨h0, rfl⟩⟩
    · obtain ⟨k, hk⟩ := inv.surj i (Nat.pos_of_ne_zero h0) hi
      exact ⟨k, Or.inr hk⟩
  rw [keyFn_of_keyed inv hk]; exact hk

theorem setFallbacks_size (cs : CState) : (setFallbacks cs).size = cs.states.size := by
  rw [setFallbacks_eq]; exact foldl_fbStep_size ..

theorem setFallbacks_back {cs : CState} {o : List Nat} (inv : CInv cs o) {i : Nat} {s' : HState}
    (hs' : (setFallbacks cs)[i]? = some s') :
    ∃ s : HState, cs.states[i]? = some s ∧ s'.pat = s.pat ∧ s'.trans = s.trans ∧
      s'.fallback = if i = 0 then s.fallback else fbSearch cs.hash (keyFn cs i).tail % 4294967296 := by
  rw [setFallbacks_eq, foldl_fbStep_get? _ (fun i => fbSearch cs.hash (keyFn cs i).tail % 4294967296) _ _
    (fun e he _ => by rw [keyFn_of_keyed inv (Or.inr he)])] at hs'
  obtain ⟨s, h0, rfl⟩ := Option.map_eq_some_iff.mp hs'
  refine ⟨s, h0, by split <;> rfl, by split <;> rfl, ?_⟩
  by_cases hi0 : i = 0
  · subst hi0; rfl
  · obtain ⟨k, hk⟩ := inv.surj i (Nat.pos_of_ne_zero hi0) (lt_of_getElem? h0)
    rw [if_neg hi0]
    exact congrArg HState.fallback (if_pos ⟨hi0, any_eq_true.mpr ⟨(k, i), hk, by simp⟩⟩)

theorem setFallbacks_ok {pats : List Pat} {cs : CState} (pi : PInv pats cs) :
    DictOK pats (setFallbacks cs) (keyFn cs) := by
  have inv := pi.inv
  have fsz := setFallbacks_size cs
  refine ⟨fsz ▸ inv.size_pos, fsz ▸ inv.size_le, keyFn_of_keyed inv (Or.inl ⟨rfl, rfl⟩), ?_, ?_, ?_, ?_, ?_, ?_, ?_⟩
  · intro i j hi hj e
    rw [fsz] at hi hj
    exact Keyed.unique inv (keyed_keyFn inv hi) (e ▸ keyed_keyFn inv hj)
  · intro i hi hk
    exact ((pi.keys _).mp ⟨i, keyed_keyFn inv (fsz ▸ hi)⟩).resolve_left hk
  · intro s hs
    obtain ⟨i, hi⟩ := (pi.keys s).mpr (Or.inr hs)
    exact ⟨i, fsz ▸ hi.lt inv, keyFn_of_keyed inv hi⟩
  · intro i s' hs' ch tgt
    obtain ⟨s, a1, _, a3, _⟩ := setFallbacks_back inv hs'
    rw [a3, fsz]
    constructor
    · intro hm
      obtain ⟨k, b1, b2⟩ := inv.tsound i s a1 ch tgt hm
      exact ⟨b2.lt inv, by rw [keyFn_of_keyed inv b1, keyFn_of_keyed inv b2]⟩
    · rintro ⟨ht, hk⟩
      obtain ⟨i2, s2, c1, c2, c3⟩ := inv.tcompl _ _ _ (hk ▸ keyed_keyFn inv ht) (by simp)
      cases Keyed.unique inv c1 (keyed_keyFn inv (lt_of_getElem? a1))
      rw [a1] at c2; cases c2
      exact c3
  · intro s' hs'
    obtain ⟨s, a1, _, _, a4⟩ := setFallbacks_back inv hs'
    exact a4.trans (inv.fbdef 0 s a1)
  · intro i s' hs' hi0
    obtain ⟨s, a1, _, _, a4⟩ := setFallbacks_back inv hs'
    have hfb := fbSearch_keyed pi (keyFn cs i).tail
    have hlt := hfb.lt inv
    have hle := inv.size_le
    rw [a4, if_neg hi0, Nat.mod_eq_of_lt (by omega), fsz]
    exact ⟨hlt, keyFn_of_keyed inv hfb⟩
  · intro i s' hs'
    obtain ⟨s, a1, a2, _⟩ := setFallbacks_back inv hs'
    have := pi.pats i _ (keyed_keyFn inv (lt_of_getElem? a1))
    rw [patAt, a1] at this
    exact a2.trans this

theorem compileDict_ok (pats : List Pat) (hsz : (compileDict pats).size ≤ DEFAULTSTATE) :
    DictOK pats (compileDict pats) (keyFn (compileC pats)) :=
  setFallbacks_ok (compileC_inv pats (setFallbacks_size _ ▸ hsz))

end Lou.Hyph
