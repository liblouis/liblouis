/-
  Sorted insertion into rule chains: `insertBefore` seen on the resolved chain is `insR` (`insertBefore_resolved`), which
  keeps any transitive order that its stop test respects (`insR_pairwise`).  The stop tests of the four chain inserters
  of the compile model, and the two orders they keep: `le` with `stopFwd` (forward buckets), `C12.CharLe` with `stopChar`
  (character chains).
-/
import LouModel.Compile

namespace Lou.Chain
open Lou Lou.Gen Lou.Compile

/-- `always` rules rank behind the other rules for the same number of characters -/
def cls (r : Rule) : Nat := if r.opcode == CTO_Always then 1 else 0

/-- `a` may stand before `b` in a forward multi-character chain: longest first, `always` last among equals, definition
    order otherwise.  Strict, the name notwithstanding (`a.idx < b.idx` at the end): `le a a` is false, which is why
    `find_first_le` says `x = r ∨ le r x` -/
def le (a b : Rule) : Prop :=
  a.chars.length > b.chars.length ∨
  (a.chars.length = b.chars.length ∧ (cls a < cls b ∨ (cls a = cls b ∧ a.idx < b.idx)))

theorem le_trans {a b c : Rule} (h1 : le a b) (h2 : le b c) : le a c := by
  unfold le at *
  omega

/-- the stop test of `addForwardRuleWithMultipleChars` -/
def stopFwd (new o : Rule) : Bool :=
  new.chars.length > o.chars.length ||
  (new.chars.length == o.chars.length && o.opcode == CTO_Always && new.opcode != CTO_Always)

/-- the stop test of `addForwardRuleWithSingleChar` -/
def stopChar (new o : Rule) : Bool := o.chars.length == 0 || (isDefOpcode o.opcode && !isDefOpcode new.opcode)

/-- the stop test of `addBackwardRuleWithSingleCell` -/
def stopDots (new o : Rule) : Bool :=
  new.chars.length > o.chars.length || o.dots.length == 0 || (isDefOpcode o.opcode && !isDefOpcode new.opcode)

/-- the stop test of `addBackwardRuleWithMultipleCells` -/
def stopBack (new o : Rule) : Bool :=
  new.dots.length + new.chars.length > o.dots.length + o.chars.length ||
  (o.dots.length + o.chars.length == new.dots.length + new.chars.length && o.opcode == CTO_Always && new.opcode != CTO_Always)

def insR (stop : Rule → Bool) (new : Rule) : List Rule → List Rule
  | [] => [new]
  | o :: rest => if stop o then new :: o :: rest else o :: insR stop new rest

theorem mem_insR (stop : Rule → Bool) (new y : Rule) (l : List Rule) :
    y ∈ insR stop new l ↔ y = new ∨ y ∈ l := by
  induction l with
  | nil => simp [insR]
  | cons o rest ih =>
    unfold insR
    split
    · simp
    · simp only [List.mem_cons, ih, or_left_comm]

theorem stopFwd_iff (new o : Rule) :
    stopFwd new o = true ↔ new.chars.length > o.chars.length ∨ (new.chars.length = o.chars.length ∧ cls new < cls o) := by
  unfold stopFwd cls
  by_cases ho : o.opcode = CTO_Always <;> by_cases hn : new.opcode = CTO_Always <;> simp [ho, hn]

theorem stopFwd_le {new o : Rule} (h : stopFwd new o = true) : le new o :=
  ((stopFwd_iff new o).mp h).imp_right (And.imp_right Or.inl)

theorem stopFwd_false_le {new o : Rule} (h : stopFwd new o = false) (hi : o.idx < new.idx) : le o new := by
  have := mt (stopFwd_iff new o).mpr (by simp [h])
  unfold le
  omega

theorem insR_pairwise {R : Rule → Rule → Prop} (htrans : ∀ {a b c}, R a b → R b c → R a c) {stop : Rule → Bool} {new : Rule} :
    ∀ (l : List Rule), l.Pairwise R → (∀ o ∈ l, stop o = true → R new o) → (∀ o ∈ l, stop o = false → R o new) →
      (insR stop new l).Pairwise R := by
  intro l
  induction l with
  | nil => intro _ _ _; simp [insR]
  | cons o rest ih =>
    intro hs h1 h2
    have hso := List.pairwise_cons.mp hs
    unfold insR
    split
    next hst =>
      have hno := h1 o (List.mem_cons_self ..) hst
      refine List.pairwise_cons.mpr ⟨fun x hx => ?_, hs⟩
      rcases List.mem_cons.mp hx with rfl | hx
      · exact hno
      · exact htrans hno (hso.1 x hx)
    next hst =>
      refine List.pairwise_cons.mpr ⟨fun y hy => ?_, ih hso.2 (fun x hx => h1 x (List.mem_cons_of_mem _ hx))
        (fun x hx => h2 x (List.mem_cons_of_mem _ hx))⟩
      rcases (mem_insR _ _ _ _).mp hy with rfl | hy
      · exact h2 o (List.mem_cons_self ..) (by simpa using hst)
      · exact hso.1 y hy

/-- inserting the newest rule (largest index) with the stop test of `addForwardRuleWithMultipleChars` keeps a chain
    in the documented order -/
theorem insR_sorted (new : Rule) : ∀ (l : List Rule), l.Pairwise le → (∀ o ∈ l, o.idx < new.idx) →
    (insR (stopFwd new) new l).Pairwise le :=
  fun l hs hi => insR_pairwise (R := le) le_trans l hs (fun _ _ => stopFwd_le) fun o ho h => stopFwd_false_le h (hi o ho)

theorem filterMap_congr {α β : Type} {f g : α → Option β} {l : List α} (h : ∀ x ∈ l, f x = g x) :
    l.filterMap f = l.filterMap g := by
  induction l with
  | nil => rfl
  | cons a as ih =>
    simp only [List.filterMap_cons, h a (List.mem_cons_self ..)]
    rw [ih (fun x hx => h x (List.mem_cons_of_mem _ hx))]

theorem insertBefore_resolved (stop : Rule → Bool) (t : Table) (new : Rule) (hn : t.rule? new.idx = some new) :
    ∀ (chain : List Nat), (∀ i ∈ chain, ∃ r, t.rule? i = some r) →
      (insertBefore stop t new.idx chain).filterMap t.rule? = insR stop new (chain.filterMap t.rule?) := by
  intro chain
  induction chain with
  | nil => intro _; simp [insertBefore, insR, hn]
  | cons i rest ih =>
    intro hres
    obtain ⟨r, hr⟩ := hres i (List.mem_cons_self ..)
    have ih' := ih (fun j hj => hres j (List.mem_cons_of_mem _ hj))
    unfold insertBefore
    by_cases hs : stop r = true
    · simp [hs, hn, hr, insR]
    · have hs' : stop r = false := by simpa using hs
      simp [hs', hr, insR, ih']

/-- the first rule of a sorted chain that a walk accepts is the best candidate: every other acceptable rule of the
    chain comes after it in the order -/
theorem find_first_le (p : Rule → Bool) : ∀ (l : List Rule), l.Pairwise le → ∀ r, l.find? p = some r →
    ∀ x ∈ l, p x = true → x = r ∨ le r x := by
  intro l hs r hf x hx hpx
  obtain ⟨_, pre, post, rfl, hpre⟩ := List.find?_eq_some_iff_append.mp hf
  rcases List.mem_append.mp hx with hx | hx
  · exact absurd hpx (by simpa using hpre x hx)
  · exact (List.mem_cons.mp hx).imp_right ((List.pairwise_cons.mp (List.pairwise_append.mp hs).2.1).1 x)

end Lou.Chain

-- the order of character chains next to its stop test; under `Lou.C12` since `C12.TableConsistent.charOrder` is stated with it
namespace Lou.C12
open Lou Lou.Compile Lou.Chain

def IsDef (r : Rule) : Prop := isDefOpcode r.opcode = true

/-- character chains: non-definition rules in definition order, then definition rules in definition order -/
def CharLe (a b : Rule) : Prop := (¬ IsDef a ∧ IsDef b) ∨ ((IsDef a ↔ IsDef b) ∧ a.idx < b.idx)

theorem charLe_trans {a b c : Rule} (h1 : CharLe a b) (h2 : CharLe b c) : CharLe a c := by
  rcases h1 with ⟨na, db⟩ | ⟨e1, l1⟩ <;> rcases h2 with ⟨nb, dc⟩ | ⟨e2, l2⟩
  · exact absurd db nb
  · left; exact ⟨na, e2.mp db⟩
  · left; exact ⟨fun ha => nb (e1.mp ha), dc⟩
  · right; exact ⟨e1.trans e2, by omega⟩

theorem insR_charSorted (new : Rule) : ∀ (l : List Rule), l.Pairwise CharLe → (∀ o ∈ l, o.idx < new.idx) →
    (∀ o ∈ l, o.chars.length ≠ 0) → (insR (stopChar new) new l).Pairwise CharLe := by
  intro l hs hi hlen
  refine insR_pairwise (R := CharLe) charLe_trans l hs (fun o ho hst => ?_) (fun o ho hst => ?_)
  · simp only [stopChar, Bool.or_eq_true, beq_iff_eq, hlen o ho, false_or, Bool.and_eq_true, Bool.not_eq_eq_eq_not,
      Bool.not_true] at hst
    exact .inl ⟨by unfold IsDef; rw [hst.2]; simp, hst.1⟩
  · simp only [stopChar, Bool.or_eq_false_iff, Bool.and_eq_false_imp, Bool.not_eq_eq_eq_not, Bool.not_false] at hst
    unfold CharLe IsDef
    by_cases ho' : isDefOpcode o.opcode = true
    · exact .inr ⟨by rw [ho', hst.2 ho'], hi o ho⟩
    · by_cases hn : isDefOpcode new.opcode = true
      · exact .inl ⟨ho', hn⟩
      · exact .inr ⟨by rw [Bool.not_eq_true _ |>.mp ho', Bool.not_eq_true _ |>.mp hn], hi o ho⟩

end Lou.C12
