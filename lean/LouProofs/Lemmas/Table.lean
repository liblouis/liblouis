/-
  Lookups in a logical table (`LouModel/Table.lean`): what a successful `rule?`/`char?`/`dots?`/`forBucket`/`backBucket` says,
  which bucket a key finds when no key stands twice, and `getChar`/`getDots` by the lookup behind them.
-/
import LouModel.Table

namespace Lou

namespace Table

theorem rule?_mem {t : Table} {i : Nat} {r : Rule} (h : t.rule? i = some r) : r ∈ t.rules :=
  List.mem_of_find?_eq_some h

theorem rule?_idx {t : Table} {i : Nat} {r : Rule} (h : t.rule? i = some r) : r.idx = i := by
  simpa using List.find?_some h

theorem char?_mem {t : Table} {c : Nat} {cr : CharRec} (h : t.char? c = some cr) : cr ∈ t.chars :=
  List.mem_of_find?_eq_some h

theorem char?_value {t : Table} {c : Nat} {cr : CharRec} (h : t.char? c = some cr) : cr.value = c := by
  simpa using List.find?_some h

theorem dots?_mem {t : Table} {d : Nat} {dr : DotsRec} (h : t.dots? d = some dr) : dr ∈ t.dots :=
  List.mem_of_find?_eq_some h

theorem dots?_value {t : Table} {d : Nat} {dr : DotsRec} (h : t.dots? d = some dr) : dr.value = d := by
  simpa using List.find?_some h

theorem getChar_some {t : Table} {c : Nat} {cr : CharRec} (h : t.char? c = some cr) : t.getChar c = cr := by
  unfold getChar
  rw [h, Option.getD_some]

theorem getChar_none {t : Table} {c : Nat} (h : t.char? c = none) : t.getChar c = { value := c, attrs := Gen.CTC_Space } := by
  unfold getChar
  rw [h, Option.getD_none]

theorem getDots_some {t : Table} {d : Nat} {dr : DotsRec} (h : t.dots? d = some dr) : t.getDots d = dr := by
  unfold getDots
  rw [h, Option.getD_some]

theorem nodup_map_inj {α β : Type} {f : α → β} {l : List α} (hn : (l.map f).Nodup) {a b : α} (ha : a ∈ l) (hb : b ∈ l)
    (hk : f a = f b) : a = b :=
  List.Pairwise.forall_of_forall_of_flip (R := fun a b => f a = f b → a = b) (fun _ _ _ => rfl)
    ((List.pairwise_map.mp hn).imp fun h e => absurd e h) ((List.pairwise_map.mp hn).imp fun h e => absurd e.symm h) ha hb hk

theorem forBucket_cases (t : Table) (k : Nat) : t.forBucket k = [] ∨ ∃ b ∈ t.forB, b.1 = k ∧ t.forBucket k = b.2 := by
  unfold Table.forBucket
  cases hf : t.forB.find? (fun x => x.1 == k) with
  | none => exact .inl rfl
  | some b => exact .inr ⟨b, List.mem_of_find?_eq_some hf, by simpa using List.find?_some hf, rfl⟩

theorem backBucket_cases (t : Table) (k : Nat) : t.backBucket k = [] ∨ ∃ b ∈ t.backB, b.1 = k ∧ t.backBucket k = b.2 := by
  unfold Table.backBucket
  cases hf : t.backB.find? (fun x => x.1 == k) with
  | none => exact .inl rfl
  | some b => exact .inr ⟨b, List.mem_of_find?_eq_some hf, by simpa using List.find?_some hf, rfl⟩

theorem forBucket_of_mem {t : Table} {b : Nat × List Nat} (hb : b ∈ t.forB) (hu : ∀ b' ∈ t.forB, b'.1 = b.1 → b' = b) :
    t.forBucket b.1 = b.2 := by
  unfold Table.forBucket
  cases hf : t.forB.find? (fun x => x.1 == b.1) with
  | none => simpa using List.find?_eq_none.mp hf b hb
  | some b' => rw [hu b' (List.mem_of_find?_eq_some hf) (by simpa using List.find?_some hf)]; rfl

theorem forBucket_eq_nil {t : Table} (h : ∀ b ∈ t.forB, b.2 = []) (k : Nat) : t.forBucket k = [] := by
  rcases forBucket_cases t k with h0 | ⟨b, hb, -, he⟩
  · exact h0
  · rw [he, h b hb]

theorem backBucket_eq_nil {t : Table} (h : ∀ b ∈ t.backB, b.2 = []) (k : Nat) : t.backBucket k = [] := by
  rcases backBucket_cases t k with h0 | ⟨b, hb, -, he⟩
  · exact h0
  · rw [he, h b hb]

end Table

end Lou
