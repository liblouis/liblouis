/-
  The fuelled loop `iter` that the four main-pass loops (`Fwd.loop`, `FwdC.loopC`, `Back.loop`, `BackC.loopC`) are
  instances of: `iter f n s` runs `f` until its flag says "done" or the fuel `n` is used up, and its own flag says which.
  `ite_rel`, `map_eq_cases` and `StepSim` at the end serve the proofs about two runs of one function.
  Not `Lou.Loop.iter` (`LouModel/Loop.lean`), which is ONE iteration of the guarded pass loop of C03; the fuelled loop
  there is `Loop.run`, and its lemmas are `C03.iter_*` / `C03.run_*`.
-/

namespace Lou

def iter {σ : Type} (f : σ → σ × Bool) : Nat → σ → σ × Bool
  | 0, s => (s, false)
  | n + 1, s => if (f s).2 then ((f s).1, true) else iter f n (f s).1

variable {σ τ : Type} {f : σ → σ × Bool} {g : τ → τ × Bool}

theorem iter_inv (I : σ → Prop) (hf : ∀ s, I s → I (f s).1) : ∀ (n : Nat) (s : σ), I s → I (iter f n s).1
  | 0, _, h => h
  | n + 1, s, h => by
    unfold iter
    split
    · exact hf s h
    · exact iter_inv I hf n _ (hf s h)

theorem iter_done (I : σ → Prop) (μ : σ → Nat) (hf : ∀ s, I s → I (f s).1)
    (hμ : ∀ s, I s → (f s).2 = false → μ (f s).1 < μ s) :
    ∀ (n : Nat) (s : σ), I s → μ s < n → (iter f n s).2 = true
  | 0, _, _, h => by omega
  | n + 1, s, hi, h => by
    unfold iter
    split
    · rfl
    · rename_i hd
      have := hμ s hi (Bool.eq_false_iff.mpr hd)
      exact iter_done I μ hf hμ n _ (hf s hi) (by omega)

/-- `h0` is for loops whose step idles at measure 0 (a guard in front of the step); a measure that is never 0 makes it
    vacuous -/
theorem iter_fuel (I : σ → Prop) (μ : σ → Nat) (hf : ∀ s, I s → I (f s).1)
    (hμ : ∀ s, I s → (f s).2 = false → μ (f s).1 < μ s) (h0 : ∀ s, I s → μ s = 0 → (f s).1 = s) :
    ∀ (n : Nat) (s : σ), I s → μ s ≤ n → ∀ m, n ≤ m → (iter f m s).1 = (iter f n s).1
  | 0, s, hi, h, 0, _ => rfl
  | 0, s, hi, h, m + 1, _ => by
    unfold iter
    split
    · exact h0 s hi (by omega)
    · rename_i hd
      have := hμ s hi (Bool.eq_false_iff.mpr hd)
      omega
  | n + 1, s, hi, h, 0, hm => by omega
  | n + 1, s, hi, h, m + 1, hm => by
    unfold iter
    split
    · rfl
    · rename_i hd
      have := hμ s hi (Bool.eq_false_iff.mpr hd)
      exact iter_fuel I μ hf hμ h0 n _ (hf s hi) (by omega) m (by omega)

/-- `I k` is what holds after `k` iterations.  For loops whose state after `k` iterations is known in closed form (C11),
    where `iter_inv` would lose the count. -/
theorem iter_count (I : Nat → σ → Prop) (n : Nat) (hstep : ∀ k s, k < n → I k s → (f s).2 = false ∧ I (k + 1) (f s).1)
    (hend : ∀ s, I n s → I n (f s).1) : ∀ (fuel k : Nat) (s : σ), I k s → k ≤ n → n - k ≤ fuel → I n (iter f fuel s).1
  | 0, k, s, h, hk, hf => Nat.le_antisymm hk (Nat.le_of_sub_eq_zero (Nat.le_zero.mp hf)) ▸ h
  | fuel + 1, k, s, h, hk, hf => by
    unfold iter
    rcases Nat.lt_or_eq_of_le hk with hkn | rfl
    · obtain ⟨h1, h2⟩ := hstep k s hkn h
      rw [h1]
      exact iter_count I n hstep hend fuel (k + 1) _ h2 hkn (by omega)
    · split
      · exact hend s h
      · exact iter_count I k hstep hend fuel k _ (hend s h) hk (Nat.sub_self k ▸ Nat.zero_le _)

theorem iter_sim (R : σ → τ → Prop) (h : ∀ s t, R s t → R (f s).1 (g t).1 ∧ (f s).2 = (g t).2) :
    ∀ (n : Nat) (s : σ) (t : τ), R s t → R (iter f n s).1 (iter g n t).1 ∧ (iter f n s).2 = (iter g n t).2
  | 0, _, _, hr => ⟨hr, rfl⟩
  | n + 1, s, t, hr => by
    unfold iter
    obtain ⟨h1, h2⟩ := h s t hr
    rw [h2]
    split
    · exact ⟨h1, rfl⟩
    · exact iter_sim R h n _ _ h1

theorem ite_rel {α β : Type} (R : α → β → Prop) {c : Prop} [Decidable c] {a b : α} {a' b' : β}
    (h1 : c → R a a') (h2 : ¬c → R b b') : R (if c then a else b) (if c then a' else b') := by
  split
  · exact h1 ‹_›
  · exact h2 ‹_›

theorem map_eq_cases {α β : Type} {f : α → β} {a b : Option α} (h : a.map f = b.map f) :
    (a = none ∧ b = none) ∨ ∃ x y, a = some x ∧ b = some y ∧ f x = f y := by
  cases a <;> cases b <;> simp_all

/-- what `iter_sim` asks of two steps when the relation between the states is `v s = v t` -/
def StepSim {σ : Type} (v : σ → σ) (x y : σ × Bool) : Prop := v x.1 = v y.1 ∧ x.2 = y.2

theorem iter_stepSim {v : σ → σ} {g : σ → σ × Bool} (h : ∀ s t, v s = v t → StepSim v (f s) (g t)) (n : Nat) {s t : σ}
    (hs : v s = v t) : StepSim v (iter f n s) (iter g n t) :=
  iter_sim (fun a b => v a = v b) h n s t hs

end Lou
