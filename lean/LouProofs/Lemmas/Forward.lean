/-
  The forward main pass (LouModel/Forward.lean, ForwardCtx.lean): each function with the equation, the case lemma or
  the congruence through which the proofs use it, in the order of Lemmas/Backward, whose lemmas have the same names and
  shapes where the two models do the same.  An iteration is `lastWord`, the end test, `selectRule`, `insertNumberSign`,
  `emit` and then `remember`; a pass is the loop (`iter step`) followed by `epilogue`.  `remember` and `epilogue` are
  not in the model, which has their text twice (`step`/`stepC`, `translate`/`translateC`).
  Several equations hide what the function computes behind an `∃` that stands in front of the arguments in which two
  runs of the pass may differ (the output with its cursor, the mode but for a bit).  A contract proof opens such an
  equation once; a proof about two runs (CurBlind.lean) rewrites both runs with the same one.
-/
import LouModel.ForwardCtx
import LouProofs.Lemmas.Iter
import LouProofs.Lemmas.Table
import LouProofs.Lemmas.Walk

namespace Lou.Fwd
open Lou Lou.Gen Lou.FwdC

variable {t : Table} {mode : Nat} {input : List Nat} {max : Nat}

theorem updatePositions_eq (oc : List Nat) (il : Nat) (sh : Int) (pos : Nat) (input : List Nat) (max : Nat) (o : Out) :
    ∃ cp cs, updatePositions oc il sh pos input max o =
      if o.cells.length + oc.length > max || pos + il > input.length then none
      else some { cells := o.cells ++ oc, map := o.map ++ List.replicate oc.length ((pos : Int) + sh), cpos := cp, cstat := cs } :=
  ⟨_, _, rfl⟩

theorem updatePositions_some {oc : List Nat} {il : Nat} {sh : Int} {pos : Nat} {o o' : Out}
    (h : updatePositions oc il sh pos input max o = some o') :
    o'.cells = o.cells ++ oc ∧ o'.map = o.map ++ List.replicate oc.length ((pos : Int) + sh) ∧
    o.cells.length + oc.length ≤ max ∧ pos + il ≤ input.length := by
  obtain ⟨cp, cs, he⟩ := updatePositions_eq oc il sh pos input max o
  rw [he] at h
  split at h
  · cases h
  · rename_i hc
    simp only [Bool.or_eq_true, decide_eq_true_eq, not_or, Nat.not_lt] at hc
    cases h
    exact ⟨rfl, rfl, hc.1, hc.2⟩

theorem validMatch_go {pos : Nat} {r : Rule} (h : validMatch t input pos r = true) :
    1 ≤ r.chars.length ∧ validMatch.go t input pos r.chars.length pos r.chars 0 = true := by
  unfold validMatch at h
  dsimp only at h
  split at h
  · cases h
  · rename_i hn
    exact ⟨Nat.pos_of_ne_zero (by simpa using hn), h⟩

theorem validMatch_pos {pos : Nat} {r : Rule} (h : validMatch t input pos r = true) : 1 ≤ r.chars.length :=
  (validMatch_go h).1

theorem toLower_getChar (t : Table) (h : ∀ c ∈ t.chars, c.mode = 0) (c : Nat) : toLower t (t.getChar c) = c := by
  unfold toLower
  cases hf : t.char? c with
  | none => simp [Table.getChar_none hf]
  | some cr => simp [Table.getChar_some hf, h cr (Table.char?_mem hf), Table.char?_value hf]

/-- a character definition (`space` … below `uplow`) is accepted wherever it matches -/
theorem opcodeAccepts_of_charDef {op : Nat} (h : (CTO_Space ≤ op && op < CTO_UpLow) = true) (mode : Nat)
    (dc : Bool) (before after prevOp : Nat) : opcodeAccepts op mode dc before after prevOp = true := by
  unfold opcodeAccepts
  rw [h]
  rfl

theorem opcodeAccepts_congr {mode' : Nat} (hm : hasBit mode mNoContractions = hasBit mode' mNoContractions) (op : Nat)
    (dc : Bool) (before after prevOp : Nat) :
    opcodeAccepts op mode dc before after prevOp = opcodeAccepts op mode' dc before after prevOp := by
  unfold opcodeAccepts
  rw [hm]

theorem walkChain_eq_find {dc : Bool} {pos length before prevOp : Nat} {single : Bool} (chain : List Nat) :
    walkChain t mode dc input pos length before prevOp single chain =
      ((chain.find? fun i => (t.rule? i).all fun r =>
          (single || (decide (r.chars.length ≤ length) && validMatch t input pos r)) &&
          opcodeAccepts r.opcode mode dc before (afterAttrs t input pos r.chars.length) prevOp).bind t.rule?).map C05.toSel := by
  refine walk_eq_find rfl (fun i rest => ?_) chain
  rw [walkChain]
  cases t.rule? i <;> rfl

theorem selectRule_elim {P : Sel → Prop} {dc : Bool} {pos before prevOp : Nat}
    (hb : ∀ s, walkChain t mode dc input pos (input.length - pos) before prevOp false
      (t.forBucket (stringHashFolded t (inAt input pos) (inAt input (pos + 1)))) = some s → P s)
    (hc : ∀ s, walkChain t mode dc input pos 1 before prevOp true (t.getChar (inAt input pos)).chain = some s → P s)
    (hn : P { opcode := CTO_None, rule := none, charslen := 1 }) :
    P (selectRule t mode dc input pos before prevOp) := by
  unfold selectRule
  dsimp only
  split
  · next s hs => exact hb s (Option.ite_none_right_eq_some.mp hs).2
  · split
    · next s hs => exact hc s (Option.ite_none_right_eq_some.mp hs).2
    · exact hn

theorem selectRule_congr {mode' : Nat} {dc dc' : Bool} {pos before before' prevOp prevOp' : Nat}
    (h : ∀ op after, opcodeAccepts op mode dc before after prevOp = opcodeAccepts op mode' dc' before' after prevOp') :
    selectRule t mode dc input pos before prevOp = selectRule t mode' dc' input pos before' prevOp' := by
  unfold selectRule
  simp only [walkChain_eq_find, h]

theorem selectRule_of_char {dc : Bool} {pos before prevOp : Nat} {s : Sel} (hp : pos < input.length)
    (hb : walkChain t mode dc input pos (input.length - pos) before prevOp false
      (t.forBucket (stringHashFolded t (inAt input pos) (inAt input (pos + 1)))) = none)
    (hc : walkChain t mode dc input pos 1 before prevOp true (t.getChar (inAt input pos)).chain = some s) :
    selectRule t mode dc input pos before prevOp = s := by
  unfold selectRule
  dsimp only
  rw [hb, hc, ite_self, if_pos (show input.length - pos ≥ 1 from Nat.sub_pos_of_lt hp)]

theorem undefinedCharacter_eq (t : Table) (c : Nat) (nu : Bool) : ∃ oc il, ∀ mode, hasBit mode mNoUndefined = nu →
    ∀ pos input max o, undefinedCharacter t mode c pos input max o = updatePositions oc il 0 pos input max o := by
  unfold undefinedCharacter
  cases t.undefined.bind t.rule? with
  | some r => exact ⟨r.dots, r.chars.length, fun _ _ _ _ _ _ => rfl⟩
  | none => exact ⟨_, 1, fun _ hb _ _ _ _ => by rw [hb]⟩

theorem putCharacter_eq (t : Table) (c : Nat) (nu : Bool) : ∃ oc il, ∀ mode, hasBit mode mNoUndefined = nu →
    ∀ pos input max o, putCharacter t mode c pos input max o = updatePositions oc il 0 pos input max o := by
  unfold putCharacter
  dsimp only
  split
  · next r _ => exact ⟨r.dots, 1, fun _ _ _ _ _ _ => rfl⟩
  · exact undefinedCharacter_eq t c nu

theorem insertNumberSign_cases (t : Table) (input : List Nat) (pos prevOp before : Nat) :
    (∀ max o, insertNumberSign t input pos prevOp before max o = some o) ∨
    ∃ ns, t.numberSign.bind t.rule? = some ns ∧
      ∀ max o, insertNumberSign t input pos prevOp before max o = updatePositions ns.dots 0 0 pos input max o := by
  unfold insertNumberSign
  cases t.numberSign.bind t.rule? with
  | none => exact .inl fun _ _ => rfl
  | some ns =>
    dsimp only
    split
    · exact .inr ⟨ns, rfl, fun _ _ => rfl⟩
    · exact .inl fun _ _ => rfl

theorem emit_of_cells {sel : Sel} {r : Rule} (hop : (sel.opcode == CTO_None) = false) (hr : sel.rule = some r)
    (hd : 0 < r.dots.length) (pos : Nat) (o : Out) : emit t mode input max sel pos o =
      match updatePositions r.dots sel.charslen 0 pos input max o with
      | some o' => (pos + sel.charslen, o', true)
      | none => (pos, o, false) := by
  unfold emit
  rw [if_neg (by rw [hop]; exact Bool.false_ne_true), hr]
  exact if_pos hd

end Lou.Fwd

namespace Lou.FwdC
open Lou Lou.Gen Lou.Fwd

section lastWord
variable (t : Table) (input : List Nat) (st : St)

theorem lastWord_pos : (lastWord t input st).pos = st.pos := by unfold lastWord; split <;> rfl
theorem lastWord_out : (lastWord t input st).out = st.out := by unfold lastWord; split <;> rfl

theorem lastWord_lastIn (h : st.lastIn ≤ st.pos) : (lastWord t input st).lastIn ≤ st.pos := by
  unfold lastWord; split
  · exact Nat.le_refl _
  · exact h

theorem lastWord_lastOut (h : st.lastOut ≤ st.out.cells.length) : (lastWord t input st).lastOut ≤ st.out.cells.length := by
  unfold lastWord; split
  · exact Nat.le_refl _
  · exact h

/-- `lastWord` writes two fields.  In this form `step_eq`/`stepC_eq` state the rest of an iteration over `st` itself, so
    that every other field reads `st.pos`, `st.out` … and not `(lastWord t input st).pos` -/
theorem lastWord_eq : lastWord t input st =
    { st with lastIn := (lastWord t input st).lastIn, lastOut := (lastWord t input st).lastOut } := by
  unfold lastWord; split <;> rfl

theorem lastWord_congr_out {o' : Out} (h : st.out.cells = o'.cells) :
    lastWord t input { st with out := o' } = { lastWord t input st with out := o' } := by
  unfold lastWord
  rw [h]
  split
  · rfl
  · rfl
end lastWord

end Lou.FwdC

namespace Lou.Fwd
open Lou Lou.Gen Lou.FwdC

variable {t : Table} {mode : Nat} {input : List Nat} {max : Nat}

/-- what the state keeps of the selected rule once `emit` has returned `e`; the flag says that the emission failed
    (`goto failure`) -/
def remember (t : Table) (input : List Nat) (sel : Sel) (st : St) (e : Nat × Out × Bool) : St × Bool :=
  let dc := if (t.getChar (inAt input st.pos)).attrs &&& (CTC_SeqDelimiter ||| CTC_Space) != 0 then false else st.dontContract
  let prev := if (CTO_Always ≤ sel.opcode && sel.opcode ≤ CTO_None) || (CTO_Digit ≤ sel.opcode && sel.opcode ≤ CTO_LitDigit)
              then sel.opcode else st.prevOp
  ({ st with pos := e.1, out := e.2.1, applied := st.applied ++ [sel.rule],
             dontContract := if sel.opcode == CTO_Space then false else dc,
             prevOp := if e.2.2 then prev else st.prevOp }, !e.2.2)

/-- Neither `dc` nor `po` depends on the output before the emission (`o`) or on what the emission returns, so two runs
    that differ there are rewritten with the same ones; a single run reads the fields it needs off the projections below -/
theorem remember_eq (t : Table) (input : List Nat) (sel : Sel) (st : St) :
    ∃ (dc : Bool) (po : Nat), ∀ (o : Out) (e : Nat × Out × Bool), remember t input sel { st with out := o } e =
      ({ st with pos := e.1, out := e.2.1, dontContract := dc, prevOp := if e.2.2 then po else st.prevOp,
                 applied := st.applied ++ [sel.rule] }, !e.2.2) :=
  let r := (remember t input sel st (0, st.out, true)).1
  ⟨r.dontContract, r.prevOp, fun _ _ => rfl⟩

section remember
variable (sel : Sel) (st : St) (e : Nat × Out × Bool)

theorem remember_pos : (remember t input sel st e).1.pos = e.1 := rfl
theorem remember_out : (remember t input sel st e).1.out = e.2.1 := rfl
theorem remember_lastIn : (remember t input sel st e).1.lastIn = st.lastIn := rfl
theorem remember_lastOut : (remember t input sel st e).1.lastOut = st.lastOut := rfl
end remember

theorem remember_snd_false {sel : Sel} {st : St} {e : Nat × Out × Bool} (h : (remember t input sel st e).2 = false) :
    e.2.2 = true :=
  Eq.mp (Bool.not_eq_false' _) h

theorem step_eq (st : St) : step t mode input max st =
    let st0 := { st with lastIn := (lastWord t input st).lastIn, lastOut := (lastWord t input st).lastOut }
    if st.pos = input.length then (st0, true) else
    let before := beforeAttrs t input st.pos
    let sel := selectRule t mode st.dontContract input st.pos before st.prevOp
    match insertNumberSign t input st.pos st.prevOp before max st.out with
    | none => ({ st0 with transOpcode := sel.opcode }, true)
    | some o1 => remember t input sel { st0 with transOpcode := sel.opcode, out := o1 } (emit t mode input max sel st.pos o1) := by
  unfold step
  rw [show (if (st.pos > 0 && isSpace t (inAt input (st.pos - 1)) && st.transOpcode != CTO_JoinableWord) = true then
      { st with lastIn := st.pos, lastOut := st.out.cells.length } else st) = lastWord t input st from rfl,
    lastWord_eq t input st]
  -- the two sides have the same branches: compared branch by branch (`ite_congr`, `cases`), since rewriting or
  -- splitting a condition inside a goal that holds the whole step costs several times as much
  refine ite_congr (propext beq_iff_eq) (fun _ => rfl) fun _ => ?_
  dsimp only
  cases insertNumberSign t input st.pos st.prevOp (beforeAttrs t input st.pos) max st.out with
  | none => rfl
  | some o1 =>
    dsimp only
    unfold remember
    rcases emit t mode input max _ st.pos o1 with ⟨p', o2, b⟩
    cases b <;> rfl

theorem loop_eq_iter (n : Nat) (st : St) : loop t mode input max n st = (iter (step t mode input max) n st).1 := by
  induction n generalizing st with
  | zero => rfl
  | succ n ih =>
    unfold loop iter
    rcases step t mode input max st with ⟨st', d⟩
    cases d
    · exact ih st'
    · rfl

/-- the `failure:` epilogue: back off to the start of the current word, skip the blanks that follow -/
def epilogue (t : Table) (input : List Nat) (st : St) : PassResult :=
  let (pos, ocells, omap) :=
    if st.lastOut != 0 && st.pos < input.length && !isSpace t (inAt input st.pos) then
      (st.lastIn, st.out.cells.take st.lastOut, st.out.map.take st.lastOut)
    else (st.pos, st.out.cells, st.out.map)
  let pos := if pos < input.length then translate.skip t input (input.length + 1) pos else pos
  { out := ocells, map := omap, realInlen := pos, cpos := st.out.cpos, cstat := st.out.cstat, applied := st.applied }

theorem translate_eq (cpos cstat : Int) : translate t mode input max cpos cstat =
    epilogue t input (loop t mode input max (input.length + 2) { out := { cpos := cpos, cstat := cstat } }) := by rfl

theorem epilogue_of_end {st : St} (h : st.pos = input.length) : epilogue t input st =
    { out := st.out.cells, map := st.out.map, realInlen := st.pos, cpos := st.out.cpos, cstat := st.out.cstat,
      applied := st.applied } := by
  unfold epilogue
  simp only [h, Nat.lt_irrefl, decide_false, Bool.and_false, Bool.false_and, Bool.false_eq_true, if_false]

theorem skip_le : ∀ (fuel p : Nat), p ≤ input.length → translate.skip t input fuel p ≤ input.length
  | 0, _, h => h
  | fuel + 1, p, h => by
    unfold translate.skip
    split
    · rename_i hc
      simp only [Bool.and_eq_true, decide_eq_true_eq] at hc
      exact skip_le fuel (p + 1) (by omega)
    · exact h

/-- `p` is where the pass stops reading, `back` whether it backs off to the start of the last word -/
theorem epilogue_eq (t : Table) (input : List Nat) (st : St) : ∃ (p : Nat) (back : Bool),
    (st.pos ≤ input.length → st.lastIn ≤ st.pos → p ≤ input.length) ∧
    ∀ o, epilogue t input { st with out := o } =
      { out := if back then o.cells.take st.lastOut else o.cells, map := if back then o.map.take st.lastOut else o.map,
        realInlen := p, cpos := o.cpos, cstat := o.cstat, applied := st.applied } := by
  have hs : ∀ q, q ≤ input.length →
      (if q < input.length then translate.skip t input (input.length + 1) q else q) ≤ input.length := by
    intro q hq
    split
    · exact skip_le _ _ hq
    · exact hq
  cases hb : (st.lastOut != 0 && decide (st.pos < input.length) && !isSpace t (inAt input st.pos))
  · refine ⟨_, false, fun hp _ => hs st.pos hp, fun o => ?_⟩
    unfold epilogue
    rw [if_neg (hb ▸ Bool.false_ne_true)]
    rfl
  · refine ⟨_, true, fun hp hl => hs st.lastIn (Nat.le_trans hl hp), fun o => ?_⟩
    unfold epilogue
    rw [if_pos hb]
    rfl

end Lou.Fwd

namespace Lou.FwdC
open Lou Lou.Gen Lou.Fwd

variable {t : Table} {mode : Nat} {input : List Nat} {max : Nat}

/-- what `walkChainC` answers when it takes `r`: what `walkChain` answers, and for a `context` rule the outcome of its
    test -/
def toSelC (t : Table) (input : List Nat) (pos : Nat) (vars : List Nat) (r : Rule) : SelC :=
  let test := if r.opcode == CTO_Context then
      some (Pass.fwdTest ⟨t, false, vars⟩ r.dots input pos (r.dots.length + 1) pos 0 (-1) (-1) false) else none
  { sel := C05.toSel r
    ctx := match test with | some (.ok m ic) => some (r, m, ic) | _ => none
    unsupported := match test with | some .unsupported => true | _ => false }

theorem toSelC_of_ne {pos : Nat} {vars : List Nat} {r : Rule} (h : r.opcode ≠ CTO_Context) :
    toSelC t input pos vars r = { sel := C05.toSel r } := by
  unfold toSelC
  rw [if_neg (by simpa using h)]

theorem toSelC_ctx {pos : Nat} {vars : List Nat} {r r' : Rule} {m : Pass.Match} {ic : Nat}
    (h : (toSelC t input pos vars r).ctx = some (r', m, ic)) : r.opcode = CTO_Context ∧
      Pass.fwdTest ⟨t, false, vars⟩ r'.dots input pos (r'.dots.length + 1) pos 0 (-1) (-1) false = .ok m ic := by
  unfold toSelC at h
  dsimp only at h
  split at h
  · next ht =>
    cases h
    obtain ⟨hc, ht⟩ := Option.ite_none_right_eq_some.mp ht
    exact ⟨beq_iff_eq.mp hc, Option.some.inj ht⟩
  · cases h

theorem walkChainC_eq_find {dc : Bool} {pos length before prevOp : Nat} {single posInc : Bool} {vars : List Nat}
    (chain : List Nat) : walkChainC t mode dc input pos length before prevOp single posInc vars chain =
      ((chain.find? fun i => (t.rule? i).all (C05Ctx.candidate t mode dc input pos length before prevOp single posInc vars)).bind
        t.rule?).map (toSelC t input pos vars) := by
  refine walk_eq_find rfl (fun i rest => ?_) chain
  rw [walkChainC]
  cases t.rule? i with
  | none => rfl
  | some r =>
    -- the tests of `walkChainC` in the order in which it makes them
    unfold C05Ctx.candidate toSelC C05.toSel
    dsimp only [Option.bind_some]
    cases (single || (decide (r.chars.length ≤ length) && validMatch t input pos r))
    · rfl
    cases hc : r.opcode == CTO_Context
    · rfl
    rw [beq_iff_eq.mp hc]
    cases posInc
    · rfl
    cases Pass.fwdTest ⟨t, false, vars⟩ r.dots input pos (r.dots.length + 1) pos 0 (-1) (-1) false <;> rfl

theorem walkChainC_congr {mode' : Nat} {dc dc' : Bool} {pos length before before' prevOp prevOp' : Nat} {single posInc : Bool}
    {vars : List Nat}
    (h : ∀ op after, opcodeAccepts op mode dc before after prevOp = opcodeAccepts op mode' dc' before' after prevOp')
    (chain : List Nat) : walkChainC t mode dc input pos length before prevOp single posInc vars chain =
      walkChainC t mode' dc' input pos length before' prevOp' single posInc vars chain := by
  rw [walkChainC_eq_find, walkChainC_eq_find]
  exact find?_all_bind_congr (fun _ r _ => ⟨by simp only [C05Ctx.candidate, h], rfl⟩) chain

theorem walkChainC_of_noCtx (h : ∀ r ∈ t.rules, r.opcode ≠ CTO_Context) {dc : Bool} {pos length before prevOp : Nat}
    {single posInc : Bool} {vars : List Nat} (chain : List Nat) :
    walkChainC t mode dc input pos length before prevOp single posInc vars chain =
      (walkChain t mode dc input pos length before prevOp single chain).map (fun s => ({ sel := s } : SelC)) := by
  rw [walkChainC_eq_find, walkChain_eq_find, Option.map_map]
  refine find?_all_bind_congr (fun i r hr => ?_) chain
  have hop := h r (Table.rule?_mem hr)
  exact ⟨by rw [C05Ctx.candidate, if_neg (by simpa using hop)], toSelC_of_ne hop⟩

theorem selectRuleC_elim {P : SelC → Prop} {dc : Bool} {pos before prevOp : Nat} {posInc : Bool} {vars : List Nat}
    (hb : ∀ s, walkChainC t mode dc input pos (input.length - pos) before prevOp false posInc vars
      (t.forBucket (stringHashFolded t (inAt input pos) (inAt input (pos + 1)))) = some s → P s)
    (hc : ∀ s, walkChainC t mode dc input pos 1 before prevOp true posInc vars (t.getChar (inAt input pos)).chain = some s → P s)
    (hn : P { sel := { opcode := CTO_None, rule := none, charslen := 1 } }) :
    P (selectRuleC t mode dc input pos before prevOp posInc vars) := by
  unfold selectRuleC
  dsimp only
  split
  · next s hs => exact hb s (Option.ite_none_right_eq_some.mp hs).2
  · split
    · next s hs => exact hc s (Option.ite_none_right_eq_some.mp hs).2
    · exact hn

theorem selectRuleC_congr {mode' : Nat} {dc dc' : Bool} {pos before before' prevOp prevOp' : Nat} {posInc : Bool}
    {vars : List Nat}
    (h : ∀ op after, opcodeAccepts op mode dc before after prevOp = opcodeAccepts op mode' dc' before' after prevOp') :
    selectRuleC t mode dc input pos before prevOp posInc vars = selectRuleC t mode' dc' input pos before' prevOp' posInc vars := by
  unfold selectRuleC
  simp only [walkChainC_congr h]

theorem selectRuleC_of_noCtx (h : ∀ r ∈ t.rules, r.opcode ≠ CTO_Context) {dc : Bool} {pos before prevOp : Nat} {posInc : Bool}
    {vars : List Nat} :
    selectRuleC t mode dc input pos before prevOp posInc vars = { sel := selectRule t mode dc input pos before prevOp } := by
  unfold selectRuleC selectRule
  simp only [walkChainC_of_noCtx h]
  -- the same choice between the same two walks: by cases on what they find and on the two length tests
  generalize walkChain t mode dc input pos (input.length - pos) before prevOp false _ = a
  generalize walkChain t mode dc input pos 1 before prevOp true _ = b
  by_cases h2 : input.length - pos ≥ 2 <;> by_cases h1 : input.length - pos ≥ 1 <;> simp only [h2, h1, ↓reduceIte] <;>
    cases a <;> cases b <;> rfl

theorem stepC_eq (sc : StC) : stepC t mode input max sc =
    let st := sc.st
    let st0 := { st with lastIn := (lastWord t input st).lastIn, lastOut := (lastWord t input st).lastOut }
    if st.pos = input.length then ({ sc with st := st0 }, true) else
    let before := beforeAttrs t input st.pos
    let s := selectRuleC t mode st.dontContract input st.pos before st.prevOp sc.posInc sc.vars
    if s.unsupported then ({ sc with st := st0, unsupported := true }, true) else
    match insertNumberSign t input st.pos st.prevOp before max st.out with
    | none => ({ sc with st := { st0 with transOpcode := s.sel.opcode } }, true)
    | some o1 =>
      let st1 := { st0 with transOpcode := s.sel.opcode, out := o1 }
      match foundC t s sc.posInc sc.vars input st.pos with
      | .unsupported => ({ sc with st := st1, unsupported := true }, true)
      | .rule r m ic =>
        let st2 := { st1 with transOpcode := CTO_Context, applied := st.applied ++ [some r] }
        match actionC t mode r.dots input m ic max o1 sc.vars with
        | .unsupported => ({ sc with st := st2, unsupported := true }, true)
        | .fail o' _ => ({ sc with st := { st2 with out := o' } }, true)
        | .ok o' newPos vars' =>
          ({ sc with st := { st2 with pos := newPos.toNat, out := o' }, posInc := newPos.toNat != st.pos, vars := vars' }, false)
      | .none =>
        let f := remember t input s.sel st1 (emit t mode input max s.sel st.pos o1)
        ({ sc with st := f.1, posInc := true }, f.2) := by
  unfold stepC
  rw [lastWord_eq t input sc.st]
  -- branch by branch, as in `Fwd.step_eq`
  refine ite_congr (propext beq_iff_eq) (fun _ => rfl) fun _ => ?_
  dsimp only
  cases insertNumberSign t input sc.st.pos sc.st.prevOp (beforeAttrs t input sc.st.pos) max sc.st.out with
  | none => rfl
  | some o1 =>
    dsimp only
    cases foundC t _ sc.posInc sc.vars input sc.st.pos with
    | unsupported => rfl
    | rule r m ic => rfl
    | none =>
      unfold remember
      rcases emit t mode input max _ sc.st.pos o1 with ⟨p', o2, b⟩
      cases b <;> rfl

theorem loopC_eq_iter (n : Nat) (sc : StC) : loopC t mode input max n sc = iter (stepC t mode input max) n sc := by
  induction n generalizing sc with
  | zero => rfl
  | succ n ih =>
    unfold loopC iter
    rcases stepC t mode input max sc with ⟨sc', d⟩
    cases d
    · exact ih sc'
    · rfl

theorem translateC_eq (cpos cstat : Int) : translateC t mode input max cpos cstat =
    match loopC t mode input max (2 * input.length + 2) { st := { out := { cpos := cpos, cstat := cstat } } } with
    | (sc, fin) => if sc.unsupported then .unsupported else if !fin then .fuel else .done (epilogue t input sc.st) := by rfl

end Lou.FwdC
