/-
  What the proofs use of the multipass model (LouModel/Pass.lean), function by function, both directions: a successful
  test has ordered boundaries inside the input (`MatchOK`, `MatchOKB`); the chain walk applies the first eligible rule
  whose test matches; a copy, the `memmove`, a swap and a whole action keep the accumulator well-formed (`AccOK`
  forward, `AccB` backward) and say where the scanner goes on (`ActResOK`); `mu` is the measure that falls with every
  iteration of a scanner that goes on there.  The main passes with context rules run the same tests, and actions of the
  same text over their own output, and take the lemmas about them from here.  The namespace is `Lou.C06Pass` because
  the predicates defined here stand in the statements of C06.

  The interpreters are reasoned about by functional induction (`fun_induction`): one goal per instruction, already
  rewritten with that instruction's branch of the definition; `caseN` is the N-th branch in the order of the source,
  and each proof says which branches it names.

  A trap for whoever edits the model: `Pass.lean` gives no name to the `memmove` of a copy action, and the two copies
  share a shape that has none either.  A goal about such a step holds the model's text, so the lemma about the step is
  stated on a copy of that text: `copy_cases`, `memmove_ok`, `moved_elim`, `movedB_ok` (and `finish_le`, `finishB_ok`,
  `sel_rule` in `C06Pass.lean`).  When the text changes in the model these lemmas still hold and fit nowhere: what fails
  is the proof that applies one (`fwdCopy_ok`, `fwdActLoop_ok`, `backActLoop_ok`, `FwdCOK.actLoopC_ok`, …).
-/
import LouModel.Pass

namespace Lou.C06Pass

open Lou Lou.Pass Lou.Gen

/-- a replace-bracket slot: unset or a position inside the input -/
def BracketOK (n : Nat) (x : Int) : Prop := x = -1 ∨ (0 ≤ x ∧ x ≤ n)

def MatchOK (n : Nat) (sm : Int) (m : Match) : Prop :=
  m.startMatch = sm ∧ sm ≤ m.startReplace ∧ m.startReplace ≤ m.endReplace ∧ m.endReplace ≤ n ∧
  sm ≤ m.endMatch ∧ m.endMatch ≤ n

theorem ok_of_post {neg b : Bool} {k : TestRes} {m : Match} {ic : Nat} (h : post neg b k = .ok m ic) :
    k = .ok m ic :=
  ((post_ok ..).mp h).2

theorem fwdTest_bounds_aux (c : Ctx) (p input : List Nat) (sm : Int)
    (fuel : Nat) (pos : Int) (ic : Nat) (sr er : Int) (neg : Bool) (her : BracketOK input.length er)
    (m : Match) (ic' : Nat) (h : fwdTest c p input sm fuel pos ic sr er neg = .ok m ic') :
    MatchOK input.length sm m := by
  fun_induction fwdTest c p input sm fuel pos ic sr er neg
  -- `pass_endReplace`: the closing bracket stores a position the guard at the head of the iteration has checked
  case case11 ih => exact ih (.inr (by omega)) (ok_of_post h)
  -- `pass_endTest`, passed: the final check compares the opening bracket with everything else, so nothing need be
  -- known of it
  case case18 hc =>
    cases h
    refine ⟨rfl, ?_⟩
    simp +zetaDelta only [BracketOK, beq_iff_eq] at her hc ⊢
    split at hc <;> rename_i hs <;> simp only [hs, ↓reduceIte] <;> omega
  -- every other instruction goes on with the slot it found (behind `post`, or directly), or fails
  all_goals first
    | next ih => exact ih her (ok_of_post h)
    | next ih => exact ih her h
    | cases h

/-- with `MatchOK.newPos`: an applied rule never moves the position backwards (the step contract S2 of C03) -/
theorem fwdTest_bounds (c : Ctx) (p input : List Nat) (pos : Int) (fuel : Nat) (m : Match) (ic : Nat)
    (h : fwdTest c p input pos fuel pos 0 (-1) (-1) false = .ok m ic) : MatchOK input.length pos m :=
  fwdTest_bounds_aux c p input pos fuel pos 0 (-1) (-1) false (Or.inl rfl) m ic h

theorem MatchOK.newPos {n : Nat} {sm np : Int} {m : Match} (hm : MatchOK n sm m)
    (h : np = m.endReplace ∨ np = m.endMatch) : sm ≤ np ∧ np ≤ n := by
  obtain ⟨-, h1, h2, h3, h4, h5⟩ := hm
  rcases h with rfl | rfl <;> omega

/-- boundaries of a successful backward test at position `sm`: the replacement ends at or after the match
    start (so the scanner never moves backwards); the bracket may OPEN before it after a look-back -/
def MatchOKB (n : Nat) (sm : Int) (m : Match) : Prop :=
  m.startMatch = sm ∧ 0 ≤ m.startReplace ∧ m.startReplace ≤ m.endReplace ∧ sm ≤ m.endReplace ∧ m.endReplace ≤ n ∧
  sm ≤ m.endMatch ∧ m.endMatch ≤ n

theorem MatchOKB.newPos {n : Nat} {sm np : Int} {m : Match} (hm : MatchOKB n sm m)
    (h : np = m.endReplace ∨ np = m.endMatch) : sm ≤ np ∧ np ≤ n := by
  obtain ⟨-, -, -, h3, h4, h5, h6⟩ := hm
  rcases h with rfl | rfl <;> omega

theorem attrMin_ge (t : Table) (ds neg seg : Bool) (mask : Nat) (input : List Nat) (k : Nat) (pos : Int) :
    pos ≤ (attrMin t ds neg seg mask input k pos).2 := by
  fun_induction attrMin t ds neg seg mask input k pos
  case case5 ih => exact Int.le_trans (by omega) ih
  all_goals exact Int.le_refl _

theorem attrMax_ge (t : Table) (ds neg seg : Bool) (mask : Nat) (input : List Nat) (k : Nat) (pos : Int) :
    pos ≤ (attrMax t ds neg seg mask input k pos).2 := by
  fun_induction attrMax t ds neg seg mask input k pos
  case case5 ih => exact Int.le_trans (by omega) ih
  all_goals exact Int.le_refl _

theorem attrOperand_ge (t : Table) (ds neg seg : Bool) (p : List Nat) (ic : Nat) (input : List Nat) (pos : Int) :
    pos ≤ (attrOperand t ds neg seg p ic input pos).2 := by
  unfold attrOperand
  dsimp only
  split
  · exact Int.le_trans (attrMin_ge ..) (attrMax_ge ..)
  · exact attrMin_ge ..

/-- the backward interpreter does not check `0 ≤ pos`: it is an invariant (a look-back stops at 0) -/
theorem backTest_bounds_aux (c : Ctx) (p input : List Nat) (sm : Int) (hsm : 0 ≤ sm)
    (fuel : Nat) (pos : Int) (ic : Nat) (sr er : Int) (neg : Bool) (hpos : 0 ≤ pos)
    (hsr : BracketOK input.length sr) (her : BracketOK input.length er)
    (m : Match) (ic' : Nat) (h : backTest c p input sm fuel pos ic sr er neg = .ok m ic') :
    MatchOKB input.length sm m := by
  fun_induction backTest c p input sm fuel pos ic sr er neg
  -- `pass_lookback` (7 stopped at 0, 8 inside), a literal (9) and `pass_attributes` (12) move the position
  case case7 ih | case8 ih | case9 ih => exact ih (by omega) hsr her (ok_of_post h)
  case case12 ih => exact ih (Int.le_trans hpos (attrOperand_ge ..)) hsr her (ok_of_post h)
  -- `pass_startReplace`, `pass_endReplace`: the brackets store the position, which the guard has checked from above
  case case10 ih => exact ih hpos (.inr (by omega)) her (ok_of_post h)
  case case11 ih => exact ih hpos hsr (.inr (by omega)) (ok_of_post h)
  -- `pass_endTest`, passed
  case case14 hc =>
    cases h
    refine ⟨rfl, ?_⟩
    simp +zetaDelta only [BracketOK, beq_iff_eq] at hsr her hc ⊢
    split at hc <;> rename_i hs <;> simp only [hs, ↓reduceIte] <;> omega
  -- every other instruction goes on where it is with the slots it found (behind `post`, or directly), or fails
  all_goals first
    | next ih => exact ih hpos hsr her (ok_of_post h)
    | next ih => exact ih hpos hsr her h
    | cases h

theorem backTest_bounds (c : Ctx) (p input : List Nat) (pos : Int) (hpos : 0 ≤ pos) (fuel : Nat) (m : Match) (ic : Nat)
    (h : backTest c p input pos fuel pos 0 (-1) (-1) false = .ok m ic) : MatchOKB input.length pos m :=
  backTest_bounds_aux c p input pos hpos fuel pos 0 (-1) (-1) false hpos (Or.inl rfl) (Or.inl rfl) m ic h

def testOf (c : Ctx) (back : Bool) (r : Rule) (input : List Nat) (pos : Int) : TestRes :=
  (if back then backTest else fwdTest) c r.dots input pos (r.dots.length + 1) pos 0 (-1) (-1) false

/-- `findBackPassRule` skips the rules of another pass; forward every rule is eligible (`eligible false _ _ = true` by
    `rfl`), and the hypothesis is idle -/
def eligible (back : Bool) (pass : Nat) (r : Rule) : Bool := !(back && r.opcode != opcodeOfPass pass)

theorem select_cons_rule {c : Ctx} {back : Bool} {pass : Nat} {q : Rule} {rest : List Rule} {input : List Nat}
    {pos : Int} {r : Rule} {m : Match} {ic : Nat} (h : select c back pass (q :: rest) input pos = .rule r m ic) :
    (q = r ∧ eligible back pass q = true ∧ testOf c back q input pos = .ok m ic) ∨
    ((eligible back pass q = true → testOf c back q input pos = .fail) ∧
      select c back pass rest input pos = .rule r m ic) := by
  unfold select at h
  unfold eligible testOf
  split at h
  · exact .inr ⟨by simp [*], h⟩
  · split at h
    · cases h
    · cases h; exact .inl ⟨rfl, by simp [*], ‹_›⟩
    · exact .inr ⟨fun _ => ‹_›, h⟩

/-- `findForPassRule` / `findBackPassRule` apply the FIRST rule of the chain that is eligible and whose test matches -/
theorem select_first (c : Ctx) (back : Bool) (pass : Nat) (rules : List Rule) (input : List Nat) (pos : Int)
    (r : Rule) (m : Match) (ic : Nat) (h : select c back pass rules input pos = .rule r m ic) :
    ∃ pre post, rules = pre ++ r :: post ∧ eligible back pass r = true ∧ testOf c back r input pos = .ok m ic ∧
      ∀ q ∈ pre, eligible back pass q = true → testOf c back q input pos = .fail := by
  induction rules with
  | nil => cases h
  | cons q rest ih =>
    rcases select_cons_rule h with ⟨rfl, he, ht⟩ | ⟨hq, h'⟩
    · exact ⟨[], rest, rfl, he, ht, nofun⟩
    · obtain ⟨pre, post, rfl, he, ht, hpre⟩ := ih h'
      exact ⟨q :: pre, post, rfl, he, ht, List.forall_mem_cons.2 ⟨hq, hpre⟩⟩

theorem select_matchOK {c : Ctx} {pass : Nat} {rules : List Rule} {input : List Nat} {pos : Int} {r : Rule}
    {m : Match} {ic : Nat} (h : select c false pass rules input pos = .rule r m ic) : MatchOK input.length pos m :=
  let ⟨_, _, _, _, ht, _⟩ := select_first _ _ _ _ _ _ _ _ _ h
  fwdTest_bounds _ _ _ _ _ _ _ ht

theorem select_matchOKB {c : Ctx} {pass : Nat} {rules : List Rule} {input : List Nat} {pos : Int} {r : Rule}
    {m : Match} {ic : Nat} (hpos : 0 ≤ pos) (h : select c true pass rules input pos = .rule r m ic) :
    MatchOKB input.length pos m :=
  let ⟨_, _, _, _, ht, _⟩ := select_first _ _ _ _ _ _ _ _ _ h
  backTest_bounds _ _ _ _ hpos _ _ _ ht

/-- `a` is tried before `b`: longer key first, then the rule defined first -/
def Before (a b : Rule) : Prop :=
  b.chars.length < a.chars.length ∨ (b.chars.length = a.chars.length ∧ a.idx < b.idx)

theorem before_trans {a b c : Rule} (h1 : Before a b) (h2 : Before b c) : Before a c := by
  unfold Before at *; omega

theorem chainSorted_pairwise : ∀ (l : List Rule), chainSorted l = true → l.Pairwise Before
  | [], _ => List.Pairwise.nil
  | [a], _ => by simp
  | a :: b :: rest, h => by
    simp only [chainSorted, Bool.and_eq_true, Bool.or_eq_true, decide_eq_true_eq, beq_iff_eq] at h
    have ih := chainSorted_pairwise (b :: rest) h.2
    have hab : Before a b := by unfold Before; omega
    exact .cons (List.forall_mem_cons.2 ⟨hab, fun _ hx => before_trans hab (List.rel_of_pairwise_cons ih hx)⟩) ih

def AccOK (n max : Nat) (a : Acc) : Prop :=
  a.map.length = a.out.length ∧ a.out.length ≤ max ∧ ∀ x ∈ a.map, 0 ≤ x ∧ x ≤ (n : Int)

theorem AccOK.append {n max : Nat} {a : Acc} (ha : AccOK n max a) {xs : List Nat} {ys : List Int}
    (hl : ys.length = xs.length) (hcap : a.out.length + xs.length ≤ max) (hy : ∀ y ∈ ys, 0 ≤ y ∧ y ≤ (n : Int)) :
    AccOK n max ⟨a.out ++ xs, a.map ++ ys⟩ :=
  ⟨by simp only [List.length_append, ha.1, hl], by simpa only [List.length_append] using hcap,
    fun y h => (List.mem_append.mp h).elim (ha.2.2 y) (hy y)⟩

theorem AccOK.push {n max : Nat} {a : Acc} (ha : AccOK n max a) {xs : List Nat} {v : Int}
    (hcap : a.out.length + xs.length ≤ max) (hv : 0 ≤ v ∧ v ≤ (n : Int)) :
    AccOK n max ⟨a.out ++ xs, a.map ++ List.replicate xs.length v⟩ :=
  ha.append List.length_replicate hcap fun _ h => List.eq_of_mem_replicate h ▸ hv

theorem literal_length_le (p : List Nat) (ic : Nat) : (literal p ic).length ≤ ins p (ic + 1) := by
  unfold literal; exact List.length_take_le ..

theorem literal_cap {p : List Nat} {ic l max : Nat} (h : ¬l + ins p (ic + 1) > max) :
    l + (literal p ic).length ≤ max := by
  have := literal_length_le p ic; omega

theorem slice_length_le (input : List Nat) (a b : Int) : (slice input a b).length ≤ (b - a).toNat := by
  unfold slice; split
  · simp
  · exact List.length_take_le ..

theorem slice_length (input : List Nat) (a b : Int) (ha : 0 ≤ a) (hb : b ≤ input.length) :
    (slice input a b).length = (b - a).toNat := by
  unfold slice
  split
  · exact (Int.toNat_eq_zero.mpr (Int.sub_nonpos_of_le ‹_›)).symm
  · exact List.length_take_of_le (by rw [List.length_drop]; omega)

theorem range_length (a b : Int) : (range a b).length = (b - a).toNat := by
  unfold range; split
  · simp only [List.length_nil]; omega
  · simp

theorem range_mem {a b x : Int} (h : x ∈ range a b) : a ≤ x ∧ x < b := by
  unfold range at h; split at h
  · simp at h
  · simp only [List.mem_map, List.mem_range] at h
    obtain ⟨k, hk, rfl⟩ := h; omega

/-- the shape `fwdCopy` and `backCopy` share: nothing to copy, or a copy `y` that was found to fit -/
theorem copy_cases {α : Type} {frm to : Int} {max l : Nat} {x y r : α}
    (h : (if to > frm then if l + (to - frm).toNat > max then none else some y else some x) = some r) :
    (to ≤ frm ∧ r = x) ∨ (l + (to - frm).toNat ≤ max ∧ r = y) := by
  split at h
  · split at h <;> cases h
    exact .inr ⟨Nat.le_of_not_gt ‹_›, rfl⟩
  · cases h; exact .inl ⟨Int.not_lt.mp ‹_›, rfl⟩

theorem fwdCopy_out {input : List Nat} {frm to : Int} {max : Nat} {a a' : Acc}
    (h : fwdCopy input frm to max a = some a') : a'.out = a.out ++ slice input frm to := by
  rcases copy_cases h with ⟨hle, rfl⟩ | ⟨-, rfl⟩
  · rw [slice, if_pos hle, List.append_nil]
  · rfl

theorem fwdCopy_ok {input : List Nat} {frm to : Int} {max : Nat} {a a' : Acc}
    (hf : 0 ≤ frm) (ht : to ≤ input.length) (ha : AccOK input.length max a)
    (h : fwdCopy input frm to max a = some a') : AccOK input.length max a' := by
  rcases copy_cases h with ⟨-, rfl⟩ | ⟨hcap, rfl⟩
  · exact ha
  · have hl := slice_length input frm to hf ht
    exact ha.append (by rw [range_length, hl]) (hl ▸ hcap) fun y hy => by have := range_mem hy; omega

/-- the `memmove` of the copy action drops the characters copied in front of the bracket; whatever `dsm` and
    `dsr` are, the list it builds is as long as the one it starts from, until it is cut -/
theorem memmove_ok (n max : Nat) (a : Acc) (dsm dsr : Nat) (ha : AccOK n max a) :
    let count := dsr - dsm
    let src := (a.out.drop dsr).take count
    let a1 : Acc := { out := (a.out.take dsm ++ src ++ a.out.drop (dsm + src.length)).take (a.out.length - count),
                      map := a.map.take (a.out.length - count) }
    AccOK n max a1 ∧ a1.out.length = a.out.length - count := by
  intro count src a1
  have hlen : a1.out.length = a.out.length - count := by
    refine List.length_take_of_le ?_
    simp only [List.length_append, List.length_take, List.length_drop]
    omega
  refine ⟨⟨?_, ?_, fun x hx => ha.2.2 x (List.mem_of_mem_take hx)⟩, hlen⟩
  · rw [hlen]; exact List.length_take_of_le (ha.1 ▸ Nat.sub_le ..)
  · rw [hlen]; exact Nat.le_trans (Nat.sub_le ..) ha.2.1

/-- the `memmove` step of a copy instruction as the forward action loops write it: the output `y` after the move
    or the output `x` as it is -/
theorem moved_elim {α : Type} {P : α → Prop} {x y r : α} {dsm dsr dsr' max : Nat} (hx : P x) (hy : P y)
    (h : (if dsr - dsm > 0 then if dsr + (dsr - dsm) > max then none else some (y, dsm) else some (x, dsr))
      = some (r, dsr')) : P r := by
  split at h
  · split at h <;> cases h; exact hy
  · cases h; exact hx

theorem swapOne_ok {r : Rule} {x : Nat} {p : Int} {n max : Nat} {a a' : Acc} (hp : 0 ≤ p ∧ p ≤ n) (ha : AccOK n max a)
    (h : swapOne r x p max a = some a') : AccOK n max a' ∧ a.out.length ≤ a'.out.length := by
  revert h
  -- not a member; one cell (no room, appended); a string (of length "-1", no room, appended)
  fun_cases swapOne r x p max a <;> intro h
  case case1 => cases h; exact ⟨ha, Nat.le_refl _⟩
  case case2 | case4 | case5 => cases h
  case case3 hfull =>
    cases h; exact ⟨ha.push (xs := [_]) (Nat.le_of_not_gt hfull) hp, List.length_append ▸ Nat.le_add_right ..⟩
  case case6 hfull _ =>
    cases h
    exact ⟨ha.push (Nat.le_trans (Nat.add_le_add_left (List.length_take_le ..) _) (Nat.le_of_not_gt hfull)) hp,
      List.length_append ▸ Nat.le_add_right ..⟩

theorem swapReplace_ok (r : Rule) (input : List Nat) (max : Nat) :
    ∀ (k : Nat) (p : Int) (a : Acc), 0 ≤ p → p + k ≤ input.length → AccOK input.length max a →
      AccOK input.length max (swapReplace r input max k p a).1 ∧ a.out.length ≤ (swapReplace r input max k p a).1.out.length := by
  intro k p a hp hk ha
  fun_induction swapReplace r input max k p a
  -- nothing left to replace, or the output is full; else one element is written and the rest follows
  case case1 | case2 => exact ⟨ha, Nat.le_refl _⟩
  case case3 hs ih =>
    obtain ⟨h1, h2⟩ := swapOne_ok ⟨hp, by omega⟩ ha hs
    exact ⟨(ih (by omega) (by omega) h1).1, Nat.le_trans h2 (ih (by omega) (by omega) h1).2⟩

/-- backward accumulator: one map entry per INPUT position, output within the capacity -/
def AccB (n max : Nat) (a : Acc) : Prop := a.map.length = n ∧ a.out.length ≤ max

theorem setRange_length (map : List Int) (a b v : Int) : (setRange map a b v).length = map.length := by
  simp [setRange]

theorem AccB.setRange {n max : Nat} {a : Acc} (ha : AccB n max a) (x y v : Int) :
    AccB n max { a with map := setRange a.map x y v } := ⟨(setRange_length ..).trans ha.1, ha.2⟩

theorem backCopy_out {input : List Nat} {frm to : Int} {max : Nat} {a a' : Acc}
    (h : backCopy input frm to max a = some a') : a'.out = a.out ++ slice input frm to := by
  rcases copy_cases h with ⟨hle, rfl⟩ | ⟨-, rfl⟩
  · rw [slice, if_pos hle, List.append_nil]
  · rfl

theorem backCopy_ok {input : List Nat} {frm to : Int} {n max : Nat} {a a' : Acc} (ha : AccB n max a)
    (h : backCopy input frm to max a = some a') : AccB n max a' := by
  rcases copy_cases h with ⟨-, rfl⟩ | ⟨hcap, rfl⟩
  · exact ha
  · exact ⟨List.length_mapIdx.trans ha.1, by
      rw [List.length_append]; exact Nat.le_trans (Nat.add_le_add_left (slice_length_le ..) _) hcap⟩

/-- the `memmove` step of a copy instruction as `backActLoop` writes it: the output only gets shorter -/
theorem movedB_ok {n max : Nat} {a : Acc} (ha : AccB n max a) (dsm dsr : Nat) :
    AccB n max (if dsr - dsm > 0 then
        let src := (a.out.drop dsr).take (dsr - dsm)
        (({ a with out := (a.out.take dsm ++ src ++ a.out.drop (dsm + src.length)).take (a.out.length - (dsr - dsm)) } : Acc), dsm)
      else (a, dsr)).1 := by
  split
  · exact ⟨ha.1, Nat.le_trans (List.length_take_le ..) (Nat.le_trans (Nat.sub_le ..) ha.2)⟩
  · exact ha

def ActResOK (P : Acc → Prop) (m : Match) : ActRes → Prop
  | .unsupported => True
  | .fail a' _ => P a'
  | .ok a' np' _ => P a' ∧ (np' = m.endReplace ∨ np' = m.endMatch)

theorem fwdActLoop_ok (t : Table) (p input : List Nat) (m : Match) (max dsm : Nat) (sm : Int)
    (hm : MatchOK input.length sm m) (hsm : 0 ≤ sm) :
    ∀ (fuel ic : Nat) (a : Acc) (dsr : Nat) (np : Int) (vars : List Nat),
      AccOK input.length max a → (np = m.endReplace ∨ np = m.endMatch) →
      ActResOK (AccOK input.length max) m (fwdActLoop t p input m max dsm fuel ic a dsr np vars) := by
  intro fuel ic a dsr np vars ha hnp
  obtain ⟨-, hm1, hm2, hm3, -, -⟩ := hm
  fun_induction fwdActLoop t p input m max dsm fuel ic a dsr np vars
  -- 1 out of fuel; 2 end of the program; 3-4 a literal (no room, written); 5 omit; 6-8 copy (no room for the `memmove`,
  -- no room for the copy, copied); 9-11 swap (names no rule, done, cut short); 12 a variable assignment; 13 anything else
  case case1 | case9 | case13 => trivial
  case case2 => exact ⟨ha, hnp⟩
  case case3 | case6 => exact ha
  case case4 hcap ih => exact ih (ha.push (v := m.startReplace) (literal_cap hcap) (by omega)) hnp
  case case5 ih | case12 ih => exact ih ha hnp
  case case7 hmv _ => exact (moved_elim ha (memmove_ok _ max _ dsm _ ha).1 hmv : AccOK _ _ _)
  case case8 hmv _ hcp ih =>
    exact ih (fwdCopy_ok (by omega) hm3 (moved_elim ha (memmove_ok _ max _ dsm _ ha).1 hmv) hcp) (.inr rfl)
  case case10 ih => exact ih (swapReplace_ok _ input max _ _ _ (by omega) (by omega) ha).1 hnp
  case case11 => exact (swapReplace_ok _ input max _ _ _ (by omega) (by omega) ha).1

/-- the result is a variable so that the lemma applies to the equation a case split on it leaves -/
theorem fwdAction_ok {t : Table} {p input : List Nat} {m : Match} {ic max : Nat} {a : Acc} {vars : List Nat} {sm : Int}
    {res : ActRes} (hm : MatchOK input.length sm m) (hsm : 0 ≤ sm) (ha : AccOK input.length max a)
    (h : fwdAction t p input m ic max a vars = res) : ActResOK (AccOK input.length max) m res := by
  subst h
  unfold fwdAction
  split
  · exact ha
  · next a1 hcp =>
    exact fwdActLoop_ok t p input m max _ sm hm hsm _ _ _ _ _ _
      (fwdCopy_ok (by have := hm.1; omega) (by have := hm.2; omega) ha hcp) (.inl rfl)

theorem backActLoop_ok (p input : List Nat) (m : Match) (n max dsm : Nat) :
    ∀ (fuel ic : Nat) (a : Acc) (dsr : Nat) (np : Int) (vars : List Nat),
      AccB n max a → (np = m.endReplace ∨ np = m.endMatch) →
      ActResOK (AccB n max) m (backActLoop p input m max dsm fuel ic a dsr np vars) := by
  intro fuel ic a dsr np vars ha hnp
  fun_induction backActLoop p input m max dsm fuel ic a dsr np vars
  -- 1 out of fuel; 2 end of the program; 3-4 a literal (no room, written); 5 omit; 6-8 copy (no room for the `memmove`,
  -- no room for the copy, copied); 9 a variable assignment; 10 anything else
  case case1 | case10 => trivial
  case case2 => exact ⟨ha, hnp⟩
  case case3 | case6 => exact ha
  case case4 hcap ih => exact ih ⟨ha.1, by simpa only [List.length_append] using literal_cap hcap⟩ hnp
  case case5 ih | case9 ih => exact ih ha hnp
  case case7 => exact movedB_ok ha ..
  case case8 hcp ih => exact ih ((backCopy_ok (movedB_ok ha ..) hcp).setRange ..) (.inr rfl)

theorem backAction_ok {p input : List Nat} {m : Match} {ic n max : Nat} {a : Acc} {vars : List Nat} {res : ActRes}
    (ha : AccB n max a) (h : backAction p input m ic max a vars = res) : ActResOK (AccB n max) m res := by
  subst h
  unfold backAction
  split
  · exact ha
  · next a1 hcp =>
    exact backActLoop_ok p input m n max _ _ _ _ _ _ _ ((backCopy_ok ha hcp).setRange ..) (.inl rfl)

theorem skipSpaces_le (t : Table) (input : List Nat) : ∀ (fuel pos : Nat), pos ≤ input.length →
    skipSpaces t input fuel pos ≤ input.length ∧ pos ≤ skipSpaces t input fuel pos := by
  intro fuel pos h
  fun_induction skipSpaces t input fuel pos
  case case1 | case3 => exact ⟨h, Nat.le_refl _⟩
  case case2 hc ih => have := ih (by omega); omega

/-- progress measure of the scanner: two iterations per remaining position at most.  It is `C03.mu` on the stage's own
    position; the abstract loop of C03 is not instantiated, its argument is made again on `fwdLoop` and `backLoop` -/
def mu (n : Nat) (pos : Int) (posInc : Bool) : Nat := 2 * (n - pos.toNat) + (if posInc then 1 else 0)

/-- a scanner starts at position 0 with the guard open, where the measure is `2n + 1`: the fuel `2n + 2` of
    `fwdStage` and `backStage` is one more -/
theorem mu_init (n : Nat) : mu n 0 true < 2 * n + 2 := Nat.lt_succ_self (2 * n + 1)

theorem mu_advance {n : Nat} {pos np : Int} (b b' : Bool) (h0 : 0 ≤ pos) (hn : pos < n) (h : pos < np) :
    mu n np b' < mu n pos b := by
  have h3 : n - np.toNat < n - pos.toNat :=
    Nat.sub_lt_sub_left ((Int.toNat_lt h0).mpr hn) ((Int.toNat_lt_toNat (Int.lt_of_le_of_lt h0 h)).mpr h)
  calc mu n np b' ≤ 2 * (n - np.toNat) + 1 := Nat.add_le_add_left (by split <;> decide) _
    _ < 2 * (n - pos.toNat) := by omega
    _ ≤ mu n pos b := Nat.le_add_right ..

/-- a rule step: the position does not go back, and the guard closes when it stays -/
theorem mu_rule {n : Nat} {pos np : Int} {b : Bool} (h0 : 0 ≤ pos) (hn : pos < n) (h : pos ≤ np)
    (hb : np = pos → b = false) : mu n np b < mu n pos true := by
  by_cases he : np = pos
  · rw [he, hb he]; simp [mu]
  · exact mu_advance _ _ h0 hn (by omega)

end Lou.C06Pass
