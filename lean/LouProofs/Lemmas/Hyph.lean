/-
  For C17: longest suffixes in a prefix-closed set (the textbook Aho–Corasick facts), lists read
  with `getD · 0`, `maxAt`/`applyPat` position by position, the pattern list, and `DictOK`: what the compiler
  (Lemmas/HyphCompile.lean) establishes and the walk (Lemmas/HyphWalk.lean) assumes.
-/
import LouModel.Hyph

namespace Lou.Hyph
open List

theorem longestSuffix_some {P : List Nat → Bool} {u s : List Nat} (h : longestSuffix P u = some s) :
    s <:+ u ∧ P s = true ∧ ∀ t, t <:+ u → P t = true → t.length ≤ s.length := by
  fun_induction longestSuffix P u with
  | case1 hp | case3 c t hp => cases h; exact ⟨suffix_refl _, hp, fun t ht _ => ht.length_le⟩
  | case2 => cases h
  | case4 c t hn ih =>
    obtain ⟨h1, h2, h3⟩ := ih h
    refine ⟨h1.trans (suffix_cons _ _), h2, fun t ht hp => ?_⟩
    rcases suffix_cons_iff.mp ht with rfl | ht'
    · exact absurd hp hn
    · exact h3 t ht' hp

theorem longestSuffix_none {P : List Nat → Bool} {u : List Nat} (h : longestSuffix P u = none) :
    ∀ t, t <:+ u → P t = false := by
  fun_induction longestSuffix P u with
  | case1 | case3 => cases h
  | case2 hn => intro t ht; rw [eq_nil_of_suffix_nil ht]; simpa using hn
  | case4 c t hn ih =>
    intro t ht
    rcases suffix_cons_iff.mp ht with rfl | ht'
    · simpa using hn
    · exact ih h t ht'

theorem longestSuffix_eq_some {P : List Nat → Bool} {u s : List Nat} (h1 : s <:+ u) (h2 : P s = true)
    (h3 : ∀ t, t <:+ u → P t = true → t.length ≤ s.length) : longestSuffix P u = some s := by
  cases h : longestSuffix P u with
  | none => rw [longestSuffix_none h s h1] at h2; cases h2
  | some s' =>
    obtain ⟨a1, a2, a3⟩ := longestSuffix_some h
    have l1 := h3 s' a1 a2
    rw [(suffix_of_suffix_length_le a1 h1 l1).eq_of_length (Nat.le_antisymm l1 (a3 s h1 h2))]

/-- `longestSuffix` with `[]` for `none`.  The root of the automaton stands for `[]` whether or not `P []` holds
    (it does not for the empty pattern list), so statements about states are made with this total version -/
def lssD (P : List Nat → Bool) (u : List Nat) : List Nat := (longestSuffix P u).getD []

theorem longestSuffix_eq_lssD {P : List Nat → Bool} (hnil : P [] = true) (u : List Nat) :
    longestSuffix P u = some (lssD P u) := by
  unfold lssD
  cases h : longestSuffix P u with
  | some s => rfl
  | none => rw [longestSuffix_none h [] nil_suffix] at hnil; cases hnil

theorem lssD_nil (P : List Nat → Bool) : lssD P [] = [] := by
  unfold lssD longestSuffix; split <;> rfl

theorem lssD_cons (P : List Nat → Bool) (a : Nat) (t : List Nat) :
    lssD P (a :: t) = if P (a :: t) then a :: t else lssD P t := by
  unfold lssD; rw [longestSuffix]; split <;> rfl

theorem lssD_self {P : List Nat → Bool} {s : List Nat} (h : P s = true) : lssD P s = s := by
  cases s with
  | nil => exact lssD_nil P
  | cons a t => rw [lssD_cons, if_pos h]

theorem lssD_suffix (P : List Nat → Bool) (u : List Nat) : lssD P u <:+ u := by
  unfold lssD
  cases h : longestSuffix P u with
  | none => exact nil_suffix
  | some s => exact (longestSuffix_some h).1

theorem lssD_P {P : List Nat → Bool} (hnil : P [] = true) (u : List Nat) : P (lssD P u) = true :=
  (longestSuffix_some (longestSuffix_eq_lssD hnil u)).2.1

theorem lssD_max {P : List Nat → Bool} (hnil : P [] = true) (u t : List Nat)
    (ht : t <:+ u) (hp : P t = true) : t <:+ lssD P u := by
  obtain ⟨a1, _, a3⟩ := longestSuffix_some (longestSuffix_eq_lssD hnil u)
  exact suffix_of_suffix_length_le ht a1 (a3 t ht hp)

/-- the Aho–Corasick step: the longest suffix of `u` in `P` is all the walk has to remember of `u` -/
theorem lssD_snoc {P : List Nat → Bool} (hpre : ∀ s t, P (s ++ t) = true → P s = true)
    (u : List Nat) (c : Nat) : lssD P (u ++ [c]) = lssD P (lssD P u ++ [c]) := by
  induction u with
  | nil => rw [lssD_nil]
  | cons a t ih =>
    rw [lssD_cons P a t]
    by_cases h : P (a :: t) = true
    · rw [if_pos h]
    · rw [if_neg h, ← ih, cons_append, lssD_cons]
      exact if_neg fun h' => h (hpre (a :: t) [c] h')

theorem getD_of_le (l : List Nat) (k : Nat) (h : l.length ≤ k) : l.getD k 0 = 0 := by
  simp [List.getElem?_eq_none h]

theorem ext_getD (l1 l2 : List Nat) (n : Nat) (h1 : l1.length = n) (h2 : l2.length = n)
    (h : ∀ q, q < n → l1.getD q 0 = l2.getD q 0) : l1 = l2 := by
  apply List.ext_getElem (by rw [h1, h2])
  intro i hi1 hi2
  have := h i (by omega)
  simpa [List.getElem?_eq_getElem hi1, List.getElem?_eq_getElem hi2] using this

theorem getD_set (l : List Nat) (i k v : Nat) (h : i < l.length) :
    (l.set i v).getD k 0 = if k = i then v else l.getD k 0 := by
  simp only [List.getD_eq_getElem?_getD, List.getElem?_set]
  by_cases c : i = k
  · subst c; simp [h]
  · have : ¬ k = i := fun e => c e.symm
    simp [c, this]

theorem getD_snoc (l : List Nat) (k : Nat) : (l ++ [0]).getD k 0 = l.getD k 0 := by
  simp only [List.getD_eq_getElem?_getD, List.getElem?_append]
  split
  · rfl
  · rename_i h
    rw [List.getElem?_eq_none (Nat.le_of_not_lt h)]
    cases k - l.length <;> rfl

theorem getD_map_range (f : Nat → Nat) (n k : Nat) :
    ((List.range n).map f).getD k 0 = if k < n then f k else 0 := by
  simp only [List.getD_eq_getElem?_getD, List.getElem?_map]
  split
  · rename_i h; rw [List.getElem?_range h]; rfl
  · rename_i h; rw [List.getElem?_eq_none (by simpa using h)]; rfl

theorem maxAt_length (h : List Nat) (q d : Nat) : (maxAt h q d).length = h.length := by
  induction h generalizing q with
  | nil => rfl
  | cons x xs ih => cases q <;> simp [maxAt, ih]

theorem maxAt_getD (h : List Nat) (q d k : Nat) :
    (maxAt h q d).getD k 0 = if k = q ∧ k < h.length then max (h.getD k 0) d else h.getD k 0 := by
  induction h generalizing q k with
  | nil => simp [maxAt]
  | cons x xs ih =>
    cases q with
    | zero =>
      cases k with
      | zero => simp only [maxAt, getD_cons_zero]; split <;> simp <;> omega
      | succ k => simp [maxAt]
    | succ q =>
      cases k with
      | zero => simp [maxAt]
      | succ k =>
        simp only [maxAt, getD_cons_succ, ih, length_cons]
        simp only [Nat.add_lt_add_iff_right, Nat.add_right_cancel_iff]

/-- the body of the max loop of `applyPat` -/
def apStep (s : List Nat) (off : Int) (acc : List Nat × Bool) (k : Nat) : List Nat × Bool :=
  let idx : Int := off + (k : Int)
  if idx < 0 then (acc.1, true) else (maxAt acc.1 idx.toNat (s.getD k 0), acc.2)

theorem applyPat_eq (h : List Nat) (n i : Nat) (s : List Nat) {off : Int} (hoff : (i : Int) + 1 - s.length = off) :
    applyPat h n i s =
      (List.range' (if off < 0 then (-off).toNat else 0)
        ((min (s.length : Int) ((n : Int) - off)).toNat - (if off < 0 then (-off).toNat else 0))).foldl
        (apStep s off) (h, false) := by
  subst hoff; rfl

/-- the max loop over the pattern digits `k0 … k0+m-1`, which fall on the array cells `o … o+m-1` (`ho`) -/
theorem foldl_apStep (s : List Nat) (off : Int) (k0 o : Nat) (ho : off + (k0 : Int) = (o : Int)) (h : List Nat) (m : Nat) :
    ((List.range' k0 m).foldl (apStep s off) (h, false)).2 = false ∧
    ((List.range' k0 m).foldl (apStep s off) (h, false)).1.length = h.length ∧
    (∀ q, q < o → ((List.range' k0 m).foldl (apStep s off) (h, false)).1.getD q 0 = h.getD q 0) ∧
    ∀ j, ((List.range' k0 m).foldl (apStep s off) (h, false)).1.getD (o + j) 0 =
      if j < m ∧ o + j < h.length then max (h.getD (o + j) 0) (s.getD (k0 + j) 0) else h.getD (o + j) 0 := by
  induction m with
  | zero => simp
  | succ m ih =>
    rw [List.range'_concat, List.foldl_append]
    obtain ⟨i1, i2, i3, i4⟩ := ih
    have hidx : off + ((k0 + 1 * m : Nat) : Int) = ((o + m : Nat) : Int) := by omega
    simp only [List.foldl_cons, List.foldl_nil, apStep, hidx, Int.toNat_natCast,
      if_neg (Int.not_lt.mpr (Int.natCast_nonneg _))]
    refine ⟨i1, by rw [maxAt_length, i2], fun q hq => ?_, fun j => ?_⟩
    · rw [maxAt_getD, i3 q hq, if_neg (by omega)]
    · rw [maxAt_getD, i4, i2]
      by_cases hj : j = m
      · subst hj; simp
      · have : j < m + 1 ↔ j < m := by omega
        simp [hj, this]

/-- the digit of the pattern string `s` that falls in front of character `q` when the last
    digit of `s` stands behind character `i` -/
def digitAt (s : List Nat) (i q : Nat) : Nat :=
  if i + 1 ≤ q + s.length then s.getD (q + s.length - (i + 1)) 0 else 0

theorem applyPat_spec (h : List Nat) (n i : Nat) (s : List Nat) :
    (applyPat h n i s).2 = false ∧ (applyPat h n i s).1.length = h.length ∧
    ∀ q, q < n → q < h.length → (applyPat h n i s).1.getD q 0 = max (h.getD q 0) (digitAt s i q) := by
  generalize hoff : (i : Int) + 1 - s.length = off
  rw [applyPat_eq h n i s hoff]
  generalize hk0 : (if off < 0 then (-off).toNat else 0) = k0
  generalize hm : (min (s.length : Int) ((n : Int) - off)).toNat - k0 = m
  -- the loop starts at the first digit that has a position in the array and ends with the
  -- pattern or with the array
  obtain ⟨o, ho, hk⟩ : ∃ o : Nat, off + k0 = o ∧ (k0 = 0 ∨ o = 0) := by
    refine ⟨(off + k0).toNat, ?_⟩; subst hk0; split <;> omega
  have hend : s.length ≤ k0 + m ∨ n ≤ o + m := by
    have := Int.self_le_toNat (min (s.length : Int) (n - off))
    generalize (min (s.length : Int) (n - off)).toNat = T at hm this
    omega
  obtain ⟨a1, a2, a3, a4⟩ := foldl_apStep s off k0 o ho h m
  refine ⟨a1, a2, fun q hq hql => ?_⟩
  unfold digitAt
  by_cases c : i + 1 ≤ q + s.length
  · obtain ⟨j, rfl⟩ : ∃ j, q = o + j := ⟨q - o, by omega⟩
    have e : o + j + s.length - (i + 1) = k0 + j := by omega
    rw [a4 j, if_pos c, e]
    by_cases cj : j < m
    · rw [if_pos ⟨cj, hql⟩]
    · rw [if_neg (fun hh => cj hh.1), getD_of_le s (k0 + j) (by omega), Nat.max_zero]
  · rw [a3 q (by omega), if_neg c, Nat.max_zero]

theorem stripZeros_spec (ds : List Nat) : ∃ z, ds = List.replicate z 0 ++ stripZeros ds := by
  induction ds with
  | nil => exact ⟨0, rfl⟩
  | cons d ds ih =>
    by_cases hd : d = 0
    · subst hd
      obtain ⟨z, hz⟩ := ih
      exact ⟨z + 1, congrArg (0 :: ·) hz⟩
    · exact ⟨0, by simp [stripZeros, hd]⟩

theorem digitAt_zero_cons (ds : List Nat) (i q : Nat) : digitAt (0 :: ds) i q = digitAt ds i q := by
  unfold digitAt
  rw [length_cons]
  by_cases c : i + 1 ≤ q + ds.length
  · rw [if_pos c, if_pos (by omega), show q + (ds.length + 1) - (i + 1) = q + ds.length - (i + 1) + 1 by omega,
      getD_cons_succ]
  · rw [if_neg c]
    split
    · rw [show q + (ds.length + 1) - (i + 1) = 0 by omega, getD_cons_zero]
    · rfl

/-- leading zeros of a pattern string contribute nothing, which is why compileHyphenation may
    drop them -/
theorem digitAt_stripZeros (ds : List Nat) (i q : Nat) : digitAt (stripZeros ds) i q = digitAt ds i q := by
  obtain ⟨z, hz⟩ := stripZeros_spec ds
  generalize stripZeros ds = s at hz
  subst hz
  induction z with
  | zero => rfl
  | succ z ih => rw [replicate_succ, cons_append, digitAt_zero_cons, ih]

theorem stripZeros_head_zero (d : Nat) (ds : List Nat) (h : d = 0) :
    (stripZeros (d :: ds)).length ≤ ds.length := by
  subst h
  exact (dropWhile_suffix (· == 0) (l := ds)).length_le

theorem isPatPrefix_nil {pats : List Pat} (h : pats ≠ []) : isPatPrefix pats [] = true := by
  cases pats with
  | nil => exact absurd rfl h
  | cons p ps => simp [isPatPrefix]

theorem isPatPrefix_pre {pats : List Pat} (s t : List Nat) (h : isPatPrefix pats (s ++ t) = true) :
    isPatPrefix pats s = true := by
  simp only [isPatPrefix, any_eq_true, isPrefixOf_iff_prefix] at *
  obtain ⟨p, hp, hpre⟩ := h
  exact ⟨p, hp, (prefix_append s t).trans hpre⟩

theorem isPatPrefix_of_nil_pats (s : List Nat) : isPatPrefix [] s = false := rfl

theorem digitsOf_some {pats : List Pat} {s ds : List Nat} (h : digitsOf pats s = some ds) :
    ∃ p, p ∈ pats ∧ p.letters = s ∧ ds = p.digits := by
  obtain ⟨p, hf, rfl⟩ := Option.map_eq_some_iff.mp h
  exact ⟨p, by simpa using mem_of_find?_eq_some hf, by simpa using find?_some hf, rfl⟩

theorem digitsOf_isPrefix {ps : List Pat} {k ds : List Nat} (h : digitsOf ps k = some ds) :
    isPatPrefix ps k = true := by
  obtain ⟨p, hp, hl, _⟩ := digitsOf_some h
  simp only [isPatPrefix, any_eq_true, isPrefixOf_iff_prefix]
  exact ⟨p, hp, by rw [hl]; exact prefix_refl _⟩

theorem digits_length (p : Pat) : p.digits.length = p.letters.length + 1 := by
  simp [Pat.digits, Pat.letters]

theorem digitsOf_length {pats : List Pat} {s ds : List Nat} (h : digitsOf pats s = some ds) :
    ds.length = s.length + 1 := by
  obtain ⟨p, _, rfl, rfl⟩ := digitsOf_some h
  exact digits_length p

theorem contrib_eq (pats : List Pat) (prep : List Nat) (i q : Nat) :
    contrib pats prep i q =
      (digitsOf pats (lssD (isPatPrefix pats) (prep.take (i + 1)))).elim 0 (digitAt · i q) := by
  unfold contrib lssD
  cases h : longestSuffix (isPatPrefix pats) (prep.take (i + 1)) with
  | none =>
    have := longestSuffix_none h [] nil_suffix
    cases hd : digitsOf pats [] with
    | none => simp [hd]
    | some ds => rw [digitsOf_isPrefix hd] at this; cases this
  | some s =>
    simp only [Option.getD_some]
    cases hd : digitsOf pats s with
    | none => rfl
    | some ds =>
      simp only [Option.elim_some, digitAt, digitsOf_length hd, ← Nat.add_assoc, Nat.add_le_add_iff_right,
        Nat.add_sub_add_right]

theorem contrib_nil (prep : List Nat) (i q : Nat) : contrib [] prep i q = 0 := by
  rw [contrib_eq]; rfl

/-- `d` is the automaton of `pats`: state `i` stands for the string `key i`; the states are
    the empty string and the prefixes of the pattern letter strings; transitions extend the
    string by one character; the fallback of a state is its longest proper suffix that is a
    state; the pattern of a state is the stripped digit string of the dictionary line with
    these letters.  No state has the number `DEFAULTSTATE`, on which the fallback loop stops. -/
structure DictOK (pats : List Pat) (d : Dict) (key : Nat → List Nat) : Prop where
  size_pos : 0 < d.size
  size_le : d.size ≤ DEFAULTSTATE
  key0 : key 0 = []
  inj : ∀ i j, i < d.size → j < d.size → key i = key j → i = j
  isP : ∀ i, i < d.size → key i ≠ [] → isPatPrefix pats (key i) = true
  all : ∀ s, isPatPrefix pats s = true → ∃ i, i < d.size ∧ key i = s
  trans : ∀ i s, d[i]? = some s → ∀ ch tgt, (ch, tgt) ∈ s.trans ↔ (tgt < d.size ∧ key tgt = key i ++ [ch])
  fb0 : ∀ s, d[0]? = some s → s.fallback = DEFAULTSTATE
  fb : ∀ i s, d[i]? = some s → i ≠ 0 →
    s.fallback < d.size ∧ key s.fallback = lssD (isPatPrefix pats) (key i).tail
  pat : ∀ i s, d[i]? = some s → s.pat = (digitsOf pats (key i)).map stripZeros

end Lou.Hyph
