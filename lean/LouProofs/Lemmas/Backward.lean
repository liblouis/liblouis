/-
  The backward main pass (LouModel/Backward.lean, BackwardCtx.lean): each function with the equation, the case lemma or
  the congruence through which the proofs use it.  A case lemma (`_cases`) or an equation with hidden parts (`_eq`) says
  which branch is taken, or what is written, as a function of what decides it (table, cell, selection, a bit of the mode,
  the length written), for every output: the contract walk (BackOK, BackCOK) reads one run off it, the two-run walk
  (CurBlindB) both runs, which therefore take the same branch.
  BackwardCtx.lean names the phases of an iteration (`headCtx`, `ctxAfterSel`, `emitPlain`, `finishC`) and writes
  `BackC.stepC` with them (so `unfold stepC` is its step equation); `step_eq` writes `Back.step` with them too, so that
  a lemma about a phase serves both backward models.  The loops are `iter` of the step behind the loop's guard
  (`stepG`, `stepCG`), a pass is the loop followed by `epilogue`.
  Order, names and shapes are those of Lemmas/Forward.  Where they differ the models do: `undefinedDots` writes by itself
  (forward every character goes through `updatePositions`); the loop makes its end test outside the step (forward
  inside); the epilogue writes the map while it skips blanks, so that there is no equation for every output as
  `Fwd.epilogue_eq`: here these are `epilogue_congr` and `epilogue_bounds`.
-/
import LouModel.BackwardCtx
import LouProofs.Lemmas.Iter
import LouProofs.Lemmas.Table
import LouProofs.Lemmas.Walk

namespace Lou.Back
open Lou Lou.Gen Lou.BackC

variable {t : Table} {mode : Nat} {input : List Nat} {max : Nat}

theorem setMap_end (m : List (Option Int)) (v : Int) : setMap m m.length v = m ++ [some v] := by
  unfold setMap
  simp

theorem updatePositions_eq (oc : List Nat) (il pos : Nat) (input : List Nat) (max : Nat) (o : Out) :
    ∃ cp cs, updatePositions oc il pos input max o =
      if o.chars.length + oc.length > max || pos + il > input.length then none
      else if oc.isEmpty then none
      else some { chars := o.chars ++ oc, map := (List.range il).foldl (fun m k => setMap m (pos + k) o.chars.length) o.map,
                  cpos := cp, cstat := cs } :=
  ⟨_, _, rfl⟩

/-- the first case of the switch: a character definition (`space` … below `uplow`, except `grouping`) is accepted
    wherever it matches -/
theorem opcodeAccepts_of_charDef {r : Rule} (h : (CTO_Space ≤ r.opcode && r.opcode < CTO_UpLow && r.opcode != CTO_Grouping) = true)
    (t : Table) (mode : Nat) (ctx : Ctx) (input : List Nat) (pos n before after prevOp : Nat) :
    opcodeAccepts t mode ctx input pos r n before after prevOp = true := by
  unfold opcodeAccepts
  simp only [h, Bool.true_or, if_true]

theorem opcodeAccepts_congr {mode' prevOp prevOp' : Nat} (hm : hasBit mode mPartialTrans = hasBit mode' mPartialTrans)
    (hp : (prevOp != CTO_JoinableWord) = (prevOp' != CTO_JoinableWord)) (ctx : Ctx) (pos : Nat) (r : Rule) (n before after : Nat) :
    opcodeAccepts t mode ctx input pos r n before after prevOp = opcodeAccepts t mode' ctx input pos r n before after prevOp' := by
  unfold opcodeAccepts isEndWord
  rw [hm, hp]

/-- `joinword` is outside the fragment: `opcodeAccepts` refuses it -/
theorem opcodeAccepts_ne_joinword {ctx : Ctx} {pos : Nat} {r : Rule} {n before after prevOp : Nat}
    (h : opcodeAccepts t mode ctx input pos r n before after prevOp = true) : r.opcode ≠ CTO_JoinableWord := by
  intro he
  unfold opcodeAccepts at h
  simp only [he] at h
  simp +decide only [Bool.false_eq_true, ↓reduceIte] at h

theorem walkChain_eq_find {ctx : Ctx} {pos length before prevOp : Nat} (chain : List Nat) :
    walkChain t mode ctx input pos length before prevOp chain =
      ((chain.find? fun i => (t.rule? i).all fun r =>
          decide (r.dots.length ≤ length) && decide (r.dots.length > 0) && (input.drop pos).take r.dots.length == r.dots &&
          opcodeAccepts t mode ctx input pos r r.dots.length before (afterAttrs t input pos r.dots.length) prevOp).bind
        t.rule?).map fun r => { opcode := r.opcode, rule := some r, dotslen := r.dots.length } := by
  refine walk_eq_find rfl (fun i rest => ?_) chain
  rw [walkChain]
  cases t.rule? i <;> rfl

theorem selectRule_elim {P : Sel → Prop} {ctx : Ctx} {pos before prevOp : Nat}
    (hb : ∀ s, walkChain t mode ctx input pos (input.length - pos) before prevOp
      (t.backBucket (((t.getDots (inAt input pos)).value * 256 + (t.getDots (inAt input (pos + 1))).value) % HASHNUM)) = some s → P s)
    (hc : ∀ s, walkChain t mode ctx input pos 1 before prevOp (t.getDots (inAt input pos)).chain = some s → P s)
    (hn : P { opcode := CTO_None, rule := none, dotslen := 1 }) :
    P (selectRule t mode ctx input pos before prevOp) := by
  unfold selectRule
  dsimp only
  split
  · next s hs => exact hb s (Option.ite_none_left_eq_some.mp hs).2
  · split
    · next s hs => exact hc s (Option.ite_none_right_eq_some.mp hs).2
    · exact hn

theorem selectRule_ne_joinword (t : Table) (mode : Nat) (ctx : Ctx) (input : List Nat) (pos before prevOp : Nat) :
    (selectRule t mode ctx input pos before prevOp).opcode ≠ CTO_JoinableWord := by
  refine selectRule_elim (P := fun s => s.opcode ≠ CTO_JoinableWord) (fun s hs => ?_) (fun s hs => ?_) (by decide)
  all_goals
    obtain ⟨_, _, r, _, rfl, hc⟩ := walk_some walkChain_eq_find hs
    exact opcodeAccepts_ne_joinword (Bool.and_eq_true_iff.mp hc).2

/-- the context is the same on both sides: `selectRule` reads `itsANumber` itself -/
theorem selectRule_congr {mode' : Nat} {ctx : Ctx} {pos before before' prevOp prevOp' : Nat}
    (h : ∀ r n after, opcodeAccepts t mode ctx input pos r n before after prevOp =
      opcodeAccepts t mode' ctx input pos r n before' after prevOp') :
    selectRule t mode ctx input pos before prevOp = selectRule t mode' ctx input pos before' prevOp' := by
  unfold selectRule
  simp only [walkChain_eq_find, h]

theorem selectRule_of_cell {ctx : Ctx} {pos before prevOp : Nat} {s : Sel} (hp : pos < input.length)
    (hb : walkChain t mode ctx input pos (input.length - pos) before prevOp
      (t.backBucket (((t.getDots (inAt input pos)).value * 256 + (t.getDots (inAt input (pos + 1))).value) % HASHNUM)) = none)
    (hc : walkChain t mode ctx input pos 1 before prevOp (t.getDots (inAt input pos)).chain = some s) :
    selectRule t mode ctx input pos before prevOp = s := by
  unfold selectRule
  dsimp only
  rw [hb, hc, ite_self, if_pos (show input.length - pos ≥ 1 from Nat.sub_pos_of_lt hp)]

/-- `w` is what `undefinedDots` appends (`none` = it does not fit): it depends on the cell, on the bit `noUndefined` of the
    mode and on the number `n` of characters written so far -/
theorem undefinedDots_eq (d : Nat) (nu : Bool) (max n : Nat) : ∃ w : Option (List Nat),
    (∀ b, w = some b → n ≤ max → n + b.length ≤ max) ∧
    ∀ mode, hasBit mode mNoUndefined = nu → ∀ pos o, o.chars.length = n →
      undefinedDots d mode pos max o = w.map fun b => { o with chars := o.chars ++ b, map := setMap o.map pos n } := by
  unfold undefinedDots
  dsimp only
  cases nu
  · by_cases hc : n + (unknownDots d).length > max
    · refine ⟨none, nofun, fun _ hb _ _ hn => ?_⟩
      rw [hb, hn]
      exact (if_neg Bool.false_ne_true).trans (if_pos hc)
    · refine ⟨some (unknownDots d), fun _ hb _ => ?_, fun _ hb _ _ hn => ?_⟩
      · cases hb
        exact Nat.le_of_not_lt hc
      · rw [hb, hn]
        exact (if_neg Bool.false_ne_true).trans (if_neg hc)
  · refine ⟨some [], fun _ hb h => ?_, fun _ hb _ _ hn => ?_⟩
    · cases hb
      exact h
    · rw [hb, hn]
      exact (if_pos rfl).trans (by rw [Option.map_some, List.append_nil])

theorem putCharacter_cases (t : Table) (d : Nat) :
    (∃ oc il, ∀ mode pos input max o, putCharacter t mode d pos input max o = updatePositions oc il pos input max o) ∨
    ∀ mode pos input max o, putCharacter t mode d pos input max o = undefinedDots d mode pos max o := by
  unfold putCharacter
  cases (t.getDots d).defRule.bind t.rule? with
  | some r => exact .inl ⟨r.chars, r.dots.length, fun _ _ _ _ _ => rfl⟩
  | none => exact .inr fun _ _ _ _ _ => rfl

/-- the four: the pseudo rule (one cell, through `undefinedDots`); an opcode without a rule; a rule with characters; the
    `=` operand, cell by cell -/
theorem emitPlain_cases (t : Table) (input : List Nat) (sel : Sel) :
    (∀ mode max st, emitPlain t mode input max sel st =
      (undefinedDots (inAt input st.pos) mode st.pos max st.out).map fun o => (st.pos + 1, o)) ∨
    (∀ mode max st, emitPlain t mode input max sel st = none) ∨
    (∃ oc il, ∀ mode max st, emitPlain t mode input max sel st =
      (updatePositions oc il st.pos input max st.out).map fun o => (st.pos + sel.dotslen, o)) ∨
    ∀ mode max st, emitPlain t mode input max sel st = step.each t mode input max sel.dotslen st.pos st.out := by
  unfold emitPlain
  by_cases hn : (sel.opcode == CTO_None) = true
  · exact .inl fun _ _ _ => if_pos hn
  cases sel.rule with
  | none => exact .inr (.inl fun _ _ _ => if_neg hn)
  | some r =>
    by_cases hc : r.chars.length > 0
    · exact .inr (.inr (.inl ⟨r.chars, r.dots.length, fun _ _ _ => (if_neg hn).trans (if_pos hc)⟩))
    · exact .inr (.inr (.inr fun _ _ _ => (if_neg hn).trans (if_neg hc)))

theorem emitPlain_of_chars {sel : Sel} {r : Rule} (hop : (sel.opcode == CTO_None) = false) (hr : sel.rule = some r)
    (hc : 0 < r.chars.length) (st : St) : emitPlain t mode input max sel st =
      (updatePositions r.chars r.dots.length st.pos input max st.out).map fun o => (st.pos + sel.dotslen, o) := by
  unfold emitPlain
  rw [hop, hr]
  exact (if_neg Bool.false_ne_true).trans (if_pos hc)

theorem headCtx_congr {st st' : St} (hc : st.ctx = st'.ctx) (ho : st.out.chars = st'.out.chars) : headCtx t st = headCtx t st' := by
  unfold headCtx beforeAttrs
  rw [hc, ho]

theorem finishC_eq (st : St) (p2 : Nat) (o2 : Out) (op2 : Nat) : finishC t input st p2 o2 op2 =
    let w := p2 > 0 && isSpaceDots t (inAt input (p2 - 1)) && op2 != CTO_JoinableWord
    { st with pos := p2, out := o2, srcword := if w then p2 else st.srcword,
              destword := if w then o2.chars.length else st.destword,
              prevOp := if (CTO_Always ≤ op2 && op2 ≤ CTO_None) || (CTO_Digit ≤ op2 && op2 ≤ CTO_LitDigit) then op2
                        else st.prevOp } := by
  unfold finishC
  cases (p2 > 0 && isSpaceDots t (inAt input (p2 - 1)) && op2 != CTO_JoinableWord) <;> rfl

theorem step_eq (st : St) : step t mode input max st =
    let ctx := headCtx t st
    let sel := selectRule t mode ctx input st.pos (beforeAttrs t st.out) st.prevOp
    let st1 := { st with ctx := ctx, applied := st.applied ++ [sel.rule] }
    if sel.opcode == CTO_NumberSign then
      let m := (List.range sel.dotslen).foldl (fun m k => setMap m (st.pos + k) st.out.chars.length) st.out.map
      ({ st1 with pos := st.pos + sel.dotslen, out := { st.out with map := m },
                  ctx := { itsANumber := 1, itsALetter := ctx.itsALetter } }, false)
    else
      let st2 := { st1 with ctx := ctxAfterSel sel ctx }
      match emitPlain t mode input max sel st2 with
      | none => (st2, true)
      | some (p', o') => (finishC t input st2 p' o' sel.opcode, false) := by rfl

def stepG (t : Table) (mode : Nat) (input : List Nat) (max : Nat) (st : St) : St × Bool :=
  if st.pos < input.length then step t mode input max st else (st, true)

theorem stepG_of_lt {st : St} (h : st.pos < input.length) : stepG t mode input max st = step t mode input max st := if_pos h

theorem stepG_of_ge {st : St} (h : input.length ≤ st.pos) : stepG t mode input max st = (st, true) := if_neg (Nat.not_lt.mpr h)

theorem loop_eq_iter (n : Nat) (st : St) : loop t mode input max n st = (iter (stepG t mode input max) n st).1 := by
  induction n generalizing st with
  | zero => rfl
  | succ n ih =>
    unfold loop iter stepG
    by_cases hp : st.pos < input.length
    · rw [if_pos hp, if_pos hp]
      rcases step t mode input max st with ⟨st', d⟩
      cases d
      · exact ih st'
      · rfl
    · rw [if_neg hp, if_neg hp]; rfl

/-- the `failure:` epilogue: back off to the start of the current word, skip (and map) the blanks that follow -/
def epilogue (t : Table) (input : List Nat) (st : St) : PassResult :=
  let (pos, ochars) :=
    if st.destword != 0 && st.pos < input.length && !isSpaceDots t (inAt input st.pos) then
      (st.srcword, st.out.chars.take st.destword)
    else (st.pos, st.out.chars)
  let (pos, m) := if pos < input.length then translate.skip t input ochars (input.length + 1) pos st.out.map else (pos, st.out.map)
  { out := ochars, map := m.take pos, realInlen := pos, cpos := st.out.cpos, cstat := st.out.cstat, applied := st.applied }

theorem translate_eq (cpos : Int) : translate t mode input max cpos =
    epilogue t input (loop t mode input max (input.length + 1) { out := { cpos := cpos, cstat := 0 } }) := by rfl

theorem epilogue_of_end {st : St} (h : st.pos = input.length) : epilogue t input st =
    { out := st.out.chars, map := st.out.map.take st.pos, realInlen := st.pos, cpos := st.out.cpos, cstat := st.out.cstat,
      applied := st.applied } := by
  unfold epilogue
  simp only [h, Nat.lt_irrefl, decide_false, Bool.and_false, Bool.false_and, Bool.false_eq_true, if_false]

theorem epilogue_congr {st st' : St} (hp : st.pos = st'.pos) (hc : st.out.chars = st'.out.chars) (hm : st.out.map = st'.out.map)
    (hs : st.srcword = st'.srcword) (hd : st.destword = st'.destword) (ha : st.applied = st'.applied) :
    epilogue t input st = { epilogue t input st' with cpos := st.out.cpos, cstat := st.out.cstat } := by
  unfold epilogue
  rw [hp, hc, hm, hs, hd, ha]

theorem skip_le (len : List Nat) : ∀ (fuel p : Nat) (m : List (Option Int)), p ≤ input.length →
    (translate.skip t input len fuel p m).1 ≤ input.length
  | 0, _, _, h => h
  | fuel + 1, p, m, h => by
    unfold translate.skip
    split
    · rename_i hc
      simp only [Bool.and_eq_true, decide_eq_true_eq] at hc
      exact skip_le len fuel (p + 1) _ (by omega)
    · exact h

/-- the epilogue only cuts the output, and stops reading at the word start or where `skip` stops -/
theorem epilogue_bounds {st : St} (h1 : st.out.chars.length ≤ max) (h2 : st.pos ≤ input.length) (h3 : st.srcword ≤ input.length) :
    (epilogue t input st).out.length ≤ max ∧ (epilogue t input st).realInlen ≤ input.length := by
  have hs : ∀ (len : List Nat) (p : Nat) (m : List (Option Int)), p ≤ input.length →
      (if p < input.length then translate.skip t input len (input.length + 1) p m else (p, m)).1 ≤ input.length :=
    fun len p m hp => by split; exact skip_le _ _ _ _ hp; exact hp
  unfold epilogue
  cases (st.destword != 0 && decide (st.pos < input.length) && !isSpaceDots t (inAt input st.pos))
  · exact ⟨h1, hs _ _ _ h2⟩
  · exact ⟨Nat.le_trans (List.length_take_le' ..) h1, hs _ _ _ h3⟩

end Lou.Back

namespace Lou.BackC
open Lou Lou.Gen Lou.Back

variable {t : Table} {mode : Nat} {input : List Nat} {max : Nat}

/-- what `walkChainC` answers when it takes `r`: what `walkChain` answers (a `context` rule is as long as its key), and
    for a `context` rule the outcome of its test -/
def toSelC (t : Table) (input : List Nat) (pos : Nat) (vars : List Nat) (r : Rule) : SelC :=
  let test := if r.opcode == CTO_Context then
      some (Pass.backTest ⟨t, true, vars⟩ r.dots input pos (r.dots.length + 1) pos 0 (-1) (-1) false) else none
  { sel := { opcode := r.opcode, rule := some r,
             dotslen := if r.opcode == CTO_Context then r.chars.length else r.dots.length }
    ctx := match test with | some (.ok m ic) => some (r, m, ic) | _ => none
    unsupported := match test with | some .unsupported => true | _ => false }

theorem toSelC_of_ne {pos : Nat} {vars : List Nat} {r : Rule} (h : r.opcode ≠ CTO_Context) :
    toSelC t input pos vars r = { sel := { opcode := r.opcode, rule := some r, dotslen := r.dots.length } } := by
  unfold toSelC
  rw [if_neg (by simpa using h), if_neg (by simpa using h)]

theorem toSelC_ctx {pos : Nat} {vars : List Nat} {r r' : Rule} {m : Pass.Match} {ic : Nat}
    (h : (toSelC t input pos vars r).ctx = some (r', m, ic)) : r.opcode = CTO_Context ∧
      Pass.backTest ⟨t, true, vars⟩ r'.dots input pos (r'.dots.length + 1) pos 0 (-1) (-1) false = .ok m ic := by
  unfold toSelC at h
  dsimp only at h
  split at h
  · next ht =>
    cases h
    obtain ⟨hc, ht⟩ := Option.ite_none_right_eq_some.mp ht
    exact ⟨beq_iff_eq.mp hc, Option.some.inj ht⟩
  · cases h

theorem walkChainC_eq_find {ctx : Ctx} {pos length before prevOp : Nat} {vars : List Nat} (chain : List Nat) :
    walkChainC t mode ctx input pos length before prevOp vars chain =
      ((chain.find? fun i => (t.rule? i).all (C05CtxB.candidate t mode ctx input pos length before prevOp vars)).bind
        t.rule?).map (toSelC t input pos vars) := by
  refine walk_eq_find rfl (fun i rest => ?_) chain
  rw [walkChainC]
  cases t.rule? i with
  | none => rfl
  | some r =>
    -- the tests of `walkChainC` in the order in which it makes them
    unfold C05CtxB.candidate toSelC
    dsimp only [Option.bind_some]
    cases hc : r.opcode == CTO_Context
    · rfl
    rw [beq_iff_eq.mp hc]
    cases (decide (r.chars.length ≤ length) && (input.drop pos).take r.chars.length == r.chars)
    · rfl
    cases Pass.backTest ⟨t, true, vars⟩ r.dots input pos (r.dots.length + 1) pos 0 (-1) (-1) false <;> rfl

theorem walkChainC_congr {mode' : Nat} {ctx ctx' : Ctx} {pos length before before' prevOp prevOp' : Nat} {vars : List Nat}
    (h : ∀ r n after, opcodeAccepts t mode ctx input pos r n before after prevOp =
      opcodeAccepts t mode' ctx' input pos r n before' after prevOp')
    (chain : List Nat) : walkChainC t mode ctx input pos length before prevOp vars chain =
      walkChainC t mode' ctx' input pos length before' prevOp' vars chain := by
  rw [walkChainC_eq_find, walkChainC_eq_find]
  exact find?_all_bind_congr (fun _ r _ => ⟨by simp only [C05CtxB.candidate, h], rfl⟩) chain

theorem walkChainC_of_noCtx (h : ∀ r ∈ t.rules, r.opcode ≠ CTO_Context) {ctx : Ctx} {pos length before prevOp : Nat}
    {vars : List Nat} (chain : List Nat) :
    walkChainC t mode ctx input pos length before prevOp vars chain =
      (walkChain t mode ctx input pos length before prevOp chain).map (fun s => ({ sel := s } : SelC)) := by
  rw [walkChainC_eq_find, walkChain_eq_find, Option.map_map]
  refine find?_all_bind_congr (fun i r hr => ?_) chain
  have hop := h r (Table.rule?_mem hr)
  exact ⟨by rw [C05CtxB.candidate, if_neg (by simpa using hop)], toSelC_of_ne hop⟩

theorem selectRuleC_elim {P : SelC → Prop} {ctx : Ctx} {pos before prevOp : Nat} {vars : List Nat}
    (hb : ∀ s, walkChainC t mode ctx input pos (input.length - pos) before prevOp vars
      (t.backBucket (((t.getDots (inAt input pos)).value * 256 + (t.getDots (inAt input (pos + 1))).value) % HASHNUM)) = some s → P s)
    (hc : ∀ s, walkChainC t mode ctx input pos 1 before prevOp vars (t.getDots (inAt input pos)).chain = some s → P s)
    (hn : P { sel := { opcode := CTO_None, rule := none, dotslen := 1 } }) :
    P (selectRuleC t mode ctx input pos before prevOp vars) := by
  unfold selectRuleC
  dsimp only
  split
  · next s hs => exact hb s (Option.ite_none_left_eq_some.mp hs).2
  · split
    · next s hs => exact hc s (Option.ite_none_right_eq_some.mp hs).2
    · exact hn

theorem selectRuleC_congr {mode' : Nat} {ctx : Ctx} {pos before before' prevOp prevOp' : Nat} {vars : List Nat}
    (h : ∀ r n after, opcodeAccepts t mode ctx input pos r n before after prevOp =
      opcodeAccepts t mode' ctx input pos r n before' after prevOp') :
    selectRuleC t mode ctx input pos before prevOp vars = selectRuleC t mode' ctx input pos before' prevOp' vars := by
  unfold selectRuleC
  simp only [walkChainC_congr h]

theorem selectRuleC_of_noCtx (h : ∀ r ∈ t.rules, r.opcode ≠ CTO_Context) {ctx : Ctx} {pos before prevOp : Nat}
    {vars : List Nat} :
    selectRuleC t mode ctx input pos before prevOp vars = { sel := selectRule t mode ctx input pos before prevOp } := by
  unfold selectRuleC selectRule
  simp only [walkChainC_of_noCtx h]
  -- the same choice between the same two walks: by cases on what they find and on the tests in front of them
  generalize walkChain t mode ctx input pos (input.length - pos) before prevOp _ = a
  generalize walkChain t mode ctx input pos 1 before prevOp _ = b
  generalize (decide (input.length - pos < 2) || (ctx.itsANumber != 0 && (t.getDots (inAt input pos)).attrs &&& CTC_LitDigit != 0)) = c
  by_cases h1 : input.length - pos ≥ 1 <;> simp only [h1, ↓reduceIte] <;> cases c <;> cases a <;> cases b <;> rfl

theorem moveOut_eq (c : List Nat) (dsm dsr : Nat) : ∃ c' : List Nat, c'.length ≤ c.length ∧
    ∀ o : Out, o.chars = c → moveOut o dsm dsr = { o with chars := c' } := by
  refine ⟨_, ?_, fun o h => by unfold moveOut; rw [h]⟩
  exact Nat.le_trans (List.length_take_le _ _) (Nat.sub_le _ _)

def stepCG (t : Table) (mode : Nat) (input : List Nat) (max : Nat) (sc : StC) : StC × Bool :=
  if sc.st.pos < input.length then stepC t mode input max sc else (sc, true)

theorem stepCG_of_lt {sc : StC} (h : sc.st.pos < input.length) : stepCG t mode input max sc = stepC t mode input max sc := if_pos h

theorem stepCG_of_ge {sc : StC} (h : input.length ≤ sc.st.pos) : stepCG t mode input max sc = (sc, true) :=
  if_neg (Nat.not_lt.mpr h)

theorem loopC_eq_iter (n : Nat) (sc : StC) : loopC t mode input max n sc = iter (stepCG t mode input max) n sc := by
  induction n generalizing sc with
  | zero => rfl
  | succ n ih =>
    unfold loopC iter stepCG
    by_cases hp : sc.st.pos < input.length
    · rw [if_pos hp, if_pos hp]
      rcases stepC t mode input max sc with ⟨sc', d⟩
      cases d
      · exact ih sc'
      · rfl
    · rw [if_neg hp, if_neg hp]; rfl

theorem translateC_eq (cpos : Int) : translateC t mode input max cpos =
    match loopC t mode input max (4 * input.length + 4) { st := { out := { cpos := cpos, cstat := 0 } } } with
    | (sc, fin) =>
      if sc.unsupported then .unsupported else if !fin then .fuel else if sc.failed then .failed
      else .done (epilogue t input sc.st) := by rfl

end Lou.BackC
