/-
  The lemmas under the theorems of C20 (table-name resolution), under the namespace `Lou.C20`, and ahead of them the
  definitions that they and the statements of `C20.lean` use: the file names `resolveSubtable` tries, cut at the first
  failing length test (`candidates`, from `tailCands` and `pathCands`); the search-path part of the explicit list
  (`pathCandsU`; the list itself, `candidatesU`, is in `C20.lean`); the length test `short`; what the precedence clauses
  assume of the candidates in front of the winner (`BaseMiss`, `EntryMiss`).

  One guarded test-and-continue step of the C code is `List.find?` over a cut list (`guard_find?`, `test_find?`), hence
  the two search loops (`searchLoop_eq_find`, `resolveTail_eq_find`); the same step for the lists themselves
  (`cut_takeWhile`, `pathCands_eq_takeWhile`, over the lengths `strlen_cand1`, `strlen_cand2`); `resolveList` member by
  member (`resolveList_cons`, `resolveList_tail_spec`); `entries` across a comma (`entries_append_comma`,
  `entries_intercalate`); the explicit list in front of a search-path entry (`pathCandsU_append`, `entryMiss_both`).
-/
import LouModel.Resolve

namespace Lou.C20
open Lou Lou.Resolve

-- `8 + 6 + … + 3` is the C test's `strlen("liblouis") + strlen("tables") + … + 3`: the three separators of `cand2`
/-- candidates contributed by the search-path entries, cut at the first failing length test -/
def pathCands (table : String) : List String → List String
  | [] => []
  | e :: rest =>
    if strlen (dirOf e) + strlen table + 1 ≥ MAX_TABLEFILE_SIZE then []
    else cand1 table e ::
      (match rest with
       | [] => []
       | _ :: _ =>
         if strlen (dirOf e) + 8 + 6 + strlen table + 3 ≥ MAX_TABLEFILE_SIZE then []
         else cand2 table e :: pathCands table rest)

def tailCands (table searchPath : String) : List String :=
  if strlen table ≥ MAX_TABLEFILE_SIZE then []
  else table :: (if searchPath = "" then [] else pathCands table (entries searchPath))

/-- every file name `resolveSubtable` may return, in the order it tries them -/
def candidates (table : String) (base : Option String) (searchPath : String) : List String :=
  if table = "" then []
  else match base with
    | none => tailCands table searchPath
    | some b =>
      if strlen b ≥ MAX_TABLEFILE_SIZE then []
      else if strlen (dirPrefix b) + strlen table ≥ MAX_TABLEFILE_SIZE then []
      else (dirPrefix b ++ table) :: tailCands table searchPath

def pathCandsU (table : String) : List String → List String
  | [] => []
  | [e] => [cand1 table e]
  | e :: e' :: rest => cand1 table e :: cand2 table e :: pathCandsU table (e' :: rest)

/-- short enough for the buffer `tableFile`: the test each candidate has to pass before `stat` sees it -/
def short (c : String) : Bool := decide (strlen c < MAX_TABLEFILE_SIZE)

/-- what "tried and not matched relative to the base" means -/
def BaseMiss (fs : FS) (table : String) (base : Option String) : Prop :=
  ∀ b, base = some b → strlen b < MAX_TABLEFILE_SIZE ∧
    strlen (dirPrefix b) + strlen table < MAX_TABLEFILE_SIZE ∧ fs (dirPrefix b ++ table) ≠ FileKind.file

/-- both variants of a non-last entry were tried (lengths fine) and are not regular files -/
def EntryMiss (fs : FS) (table e : String) : Prop :=
  strlen (cand2 table e) < MAX_TABLEFILE_SIZE ∧
  fs (cand1 table e) ≠ FileKind.file ∧ fs (cand2 table e) ≠ FileKind.file

theorem pathCandsU_append (table : String) (es : List String) (e : String) (post : List String) :
    pathCandsU table (es ++ e :: post) =
      (es.flatMap fun d => [cand1 table d, cand2 table d]) ++ pathCandsU table (e :: post) := by
  induction es with
  | nil => rfl
  | cons a as ih =>
    cases as with
    | nil => rfl
    | cons b bs => exact congrArg (cand1 table a :: cand2 table a :: ·) ih

theorem isFile_iff {fs : FS} {p : String} : isFile fs p = true ↔ fs p = FileKind.file := beq_iff_eq

-- Three facts about `takeWhile`, `List.find?` and `map` that core does not have.
theorem takeWhile_eq_self {α} {p : α → Bool} {l : List α} (h : ∀ a ∈ l, p a = true) : l.takeWhile p = l := by
  simpa using List.takeWhile_append_of_pos (l₂ := []) h

theorem find?_congr_mem {α} (p q : α → Bool) (l : List α) (h : ∀ x ∈ l, p x = q x) :
    l.find? p = l.find? q := by
  induction l with
  | nil => rfl
  | cons a as ih =>
    rw [List.find?_cons, List.find?_cons, h a (by simp), ih (fun x hx => h x (by simp [hx]))]

theorem ne_none_of_map_eq_map_some {α β} {f : α → Option β} {l : List α} {ps : List β}
    (h : l.map f = ps.map some) {a : α} (ha : a ∈ l) : f a ≠ none := by
  have : f a ∈ ps.map some := h ▸ List.mem_map_of_mem ha
  intro hn
  rw [hn] at this; simp at this

-- The C code tries one candidate after the other in the same three steps: a length test whose failure abandons the
-- search, `stat`, and otherwise on to the next candidate.  The next two lemmas turn such a step into `List.find?`
-- over a list that is cut where the length test fails.
theorem guard_find? {α} {p : α → Bool} {c : Prop} [Decidable c] {l : List α} {r : Option α} (h : r = l.find? p) :
    (if c then none else r) = (if c then [] else l).find? p := by
  split <;> simp [h]

theorem test_find? {α} {p : α → Bool} {x : α} {l : List α} {r : Option α} (h : r = l.find? p) :
    (if p x then some x else r) = (x :: l).find? p := by
  rw [List.find?_cons, h]; cases p x <;> rfl

theorem searchLoop_eq_find (fs : FS) (table : String) (es : List String) :
    searchLoop fs table es = (pathCands table es).find? (isFile fs) := by
  induction es with
  | nil => rfl
  | cons e rest ih =>
    unfold searchLoop pathCands
    refine guard_find? (test_find? ?_)
    cases rest with
    | nil => rfl
    | cons e' r => exact guard_find? (test_find? ih)

theorem resolveTail_eq_find (fs : FS) (table sp : String) :
    resolveTail fs table sp = (tailCands table sp).find? (isFile fs) :=
  guard_find? (test_find? (guard_find? (searchLoop_eq_find fs table _)))

theorem strlen_cand1 (t e : String) : strlen (cand1 t e) = strlen (dirOf e) + strlen t + 1 := by
  have h : strlen "/" = 1 := by decide
  simp only [cand1, strlen, String.utf8ByteSize_append] at *
  omega

theorem strlen_cand2 (t e : String) : strlen (cand2 t e) = strlen (dirOf e) + 8 + 6 + strlen t + 3 := by
  have h : strlen "/liblouis/tables/" = 17 := by decide
  simp only [cand2, strlen, String.utf8ByteSize_append] at *
  omega

theorem strlen_cand1_lt {t e : String} (h : strlen (cand2 t e) < MAX_TABLEFILE_SIZE) :
    strlen (cand1 t e) < MAX_TABLEFILE_SIZE := by
  rw [strlen_cand2] at h
  rw [strlen_cand1]
  omega

-- The counterpart of `guard_find?`/`test_find?` for the lists themselves: a length test in front of a candidate cuts
-- the explicit list there when the candidate is not `short`.
theorem cut_takeWhile {c : String} {n : Nat} (hn : strlen c = n) {l l' : List String} (h : l = l'.takeWhile short) :
    (if n ≥ MAX_TABLEFILE_SIZE then [] else c :: l) = (c :: l').takeWhile short := by
  rw [List.takeWhile_cons, short, hn, h]
  by_cases hlt : n < MAX_TABLEFILE_SIZE
  · rw [if_neg (Nat.not_le.2 hlt), decide_eq_true hlt, if_pos rfl]
  · rw [if_pos (Nat.not_lt.1 hlt), decide_eq_false hlt, if_neg Bool.false_ne_true]

theorem pathCands_eq_takeWhile (table : String) (es : List String) :
    pathCands table es = (pathCandsU table es).takeWhile short := by
  induction es with
  | nil => rfl
  | cons e rest ih =>
    unfold pathCands
    cases rest with
    | nil => exact cut_takeWhile (strlen_cand1 table e) rfl
    | cons e' r => exact cut_takeWhile (strlen_cand1 table e) (cut_takeWhile (strlen_cand2 table e) ih)

theorem resolveList_cons (fs : FS) (sp : String) (b : Option String) (first : Bool) (m : String) (ms : List String) :
    resolveList fs sp (m :: ms) b first =
      match resolveSubtable fs m b sp with
      | none => .error m
      | some p =>
        match resolveList fs sp ms (if first then some m else b) false with
        | .ok ps => .ok (p :: ps)
        | .error e => .error e := by
  rw [resolveList]; rfl

theorem resolveList_tail_spec (fs : FS) (sp : String) (b : Option String) (ms : List String) :
    match resolveList fs sp ms b false with
    | .ok ps => ms.map (fun m => resolveSubtable fs m b sp) = ps.map some
    | .error m => m ∈ ms ∧ resolveSubtable fs m b sp = none := by
  induction ms with
  | nil => exact rfl
  | cons m ms ih =>
    rw [resolveList_cons]
    cases hm : resolveSubtable fs m b sp with
    | none => exact ⟨List.mem_cons_self, hm⟩
    | some p =>
      rw [if_neg Bool.false_ne_true]
      cases hr : resolveList fs sp ms b false with
      | ok ps => rw [hr] at ih; exact (List.map_cons ..).trans (congr (congrArg _ hm) ih)
      | error e => rw [hr] at ih; exact ⟨List.mem_cons_of_mem _ ih.1, ih.2⟩

theorem resolveList_tail_eq (fs : FS) (sp : String) (b : Option String) (ms ps : List String) :
    resolveList fs sp ms b false = .ok ps ↔
      ms.map (fun m => resolveSubtable fs m b sp) = ps.map some := by
  have h := resolveList_tail_spec fs sp b ms
  cases hr : resolveList fs sp ms b false with
  | ok ps' =>
    rw [hr] at h
    exact ⟨fun e => by cases e; exact h,
      fun e => by rw [(List.map_inj_right fun _ _ => Option.some.inj).1 (h.symm.trans e)]⟩
  | error m => rw [hr] at h; exact ⟨nofun, fun e => absurd h.2 (ne_none_of_map_eq_map_some e h.1)⟩

theorem entries_ne_nil (s : String) : entries s ≠ [] := by simp [entries, fieldsL]

theorem splitL_append_sep (sep : Char) (a b : List Char) :
    splitL sep (a ++ sep :: b) =
      ((splitL sep a).1, (splitL sep a).2 ++ (splitL sep b).1 :: (splitL sep b).2) := by
  induction a with
  | nil => simp [splitL]
  | cons x xs ih =>
    simp only [List.cons_append, splitL, ih]
    by_cases hx : x = sep <;> simp [hx]

theorem fieldsL_append_sep (sep : Char) (a b : List Char) :
    fieldsL sep (a ++ sep :: b) = fieldsL sep a ++ fieldsL sep b := by
  simp [fieldsL, splitL_append_sep]

theorem entries_append_comma (a b : String) :
    entries (a ++ "," ++ b) = entries a ++ entries b := by
  have : (a ++ "," ++ b).toList = a.toList ++ ',' :: b.toList := by
    simp [String.toList_append]
  simp [entries, this, fieldsL_append_sep]

theorem entries_intercalate (p : String) (ps : List String) :
    entries (",".intercalate (p :: ps)) = (p :: ps).flatMap entries := by
  induction ps generalizing p with
  | nil => simp
  | cons q qs ih => rw [String.intercalate_cons_cons, entries_append_comma, ih]; simp [List.flatMap_cons]

theorem searchParts_ne_nil (env dp : Option String) (td : String) : searchParts env dp td ≠ [] := by
  unfold searchParts
  cases nonEmpty? env <;> simp

theorem entryMiss_both {fs : FS} {table : String} {pre : List String} (hpre : ∀ d ∈ pre, EntryMiss fs table d) :
    ∀ a ∈ pre.flatMap fun d => [cand1 table d, cand2 table d],
      strlen a < MAX_TABLEFILE_SIZE ∧ fs a ≠ FileKind.file := by
  intro a ha
  obtain ⟨d, hd, ha⟩ := List.mem_flatMap.1 ha
  obtain ⟨h2, f1, f2⟩ := hpre d hd
  rcases List.mem_cons.1 ha with rfl | ha
  · exact ⟨strlen_cand1_lt h2, f1⟩
  · rw [List.mem_singleton.1 ha]; exact ⟨h2, f2⟩

theorem dirPrefixL_append_sep (d f : List Char) (hf : f.any isSep = false) :
    dirPrefixL (d ++ '/' :: f) = d ++ ['/'] := by
  induction d with
  | nil => simp [dirPrefixL, hf, isSep]
  | cons c cs ih =>
    have : (cs ++ '/' :: f).any isSep = true := by simp [isSep]
    simp [dirPrefixL, this, ih]

end Lou.C20
