/-
  The lou_hyphenate wrapper, for any automaton: the word-run loop position by position.  Text
  mode leaves `charOf`, which is `specChar` with the digits of hyphenateWord in place of
  `specDigitAt` (`textHyphens_eq`); the format clause and, over a compiled dictionary,
  `specText` are read off it.
-/
import LouModel.Hyph
import LouProofs.Lemmas.Hyph

namespace Lou.Hyph
open List

theorem TBuf.ext_getD {b : TBuf} {L : List Nat} {o : Bool} (h1 : b.oob = o) (h2 : b.data.length = L.length)
    (h3 : ∀ k, b.data.getD k 0 = L.getD k 0) : b = ⟨L, o⟩ := by
  cases b
  simp only at h1 h2
  rw [h1, Lou.Hyph.ext_getD _ L L.length h2 rfl fun k _ => h3 k]

/-- `b'` arises from `b` by writes inside the array; cell `k` holds `F k` of what it held -/
structure Upd (b b' : TBuf) (F : Nat → Nat → Nat) : Prop where
  oob : b'.oob = b.oob
  len : b'.data.length = b.data.length
  get : ∀ k, b'.data.getD k 0 = F k (b.data.getD k 0)

theorem Upd.trans {b b' b'' : TBuf} {F G : Nat → Nat → Nat} (h : Upd b b' F) (h' : Upd b' b'' G) :
    Upd b b'' fun k x => G k (F k x) :=
  ⟨h'.oob.trans h.oob, h'.len.trans h.len, fun k => by rw [h'.get, h.get]⟩

theorem Upd.congr {b b' : TBuf} {F G : Nat → Nat → Nat} (h : Upd b b' F)
    (e : ∀ k, F k (b.data.getD k 0) = G k (b.data.getD k 0)) : Upd b b' G :=
  ⟨h.oob, h.len, fun k => by rw [h.get, e]⟩

theorem write_in (b : TBuf) (i v : Nat) (h : i < b.data.length) :
    Upd b (b.write i v) fun k x => if k = i then v else x := by
  unfold TBuf.write
  rw [if_pos h]
  exact ⟨rfl, by simp, fun k => getD_set _ _ _ _ h⟩

theorem writeRange_in (vs : List Nat) (b : TBuf) (s e : Nat) (he : s + vs.length = e) (hle : e ≤ b.data.length) :
    Upd b (b.writeRange s vs) fun k x => if s ≤ k ∧ k < e then vs.getD (k - s) 0 else x := by
  induction vs generalizing b s with
  | nil => exact ⟨rfl, rfl, fun k => (if_neg (by simp at he; omega)).symm⟩
  | cons x xs ih =>
    simp only [length_cons] at he
    have w := write_in b s x (by omega)
    refine (w.trans (ih (b.write s x) (s + 1) (by omega) (by rw [w.len]; exact hle))).congr fun k => ?_
    by_cases c3 : k = s
    · subst c3
      rw [if_neg (by omega), if_pos rfl, if_pos (by omega), Nat.sub_self, getD_cons_zero]
    · rw [if_neg c3]
      by_cases c1 : s + 1 ≤ k ∧ k < e
      · rw [if_pos c1, if_pos (by omega), show k - s = (k - (s + 1)) + 1 by omega, getD_cons_succ]
      · rw [if_neg c1, if_neg (by omega)]

/-- what `normalise` leaves in a cell that held the character `x`: `'1'` (49) if `x` is odd (`textHyphens[k] & 1`),
    else `'0'` (48) -/
def norm1 (x : Nat) : Nat := if x % 2 = 1 then 49 else 48

theorem normalise_in (cnt : Nat) (b : TBuf) (k0 e : Nat) (he : k0 + cnt = e) (hle : e ≤ b.data.length) :
    Upd b (normalise b cnt k0) fun k x => if k0 ≤ k ∧ k < e then norm1 x else x := by
  induction cnt generalizing b k0 with
  | zero => exact ⟨rfl, rfl, fun k => (if_neg (by omega)).symm⟩
  | succ cnt ih =>
    have w := write_in b k0 (norm1 (b.data.getD k0 0)) (by omega)
    refine (w.trans (ih (b.write k0 _) (k0 + 1) (by omega) (by rw [w.len]; exact hle))).congr fun k => ?_
    by_cases c3 : k = k0
    · subst c3
      rw [if_neg (by omega), if_pos rfl, if_pos (by omega)]
    · rw [if_neg c3]
      by_cases c1 : k0 + 1 ≤ k ∧ k < e
      · rw [if_pos c1, if_pos (by omega)]
      · rw [if_neg c1, if_neg (by omega)]

theorem init_buf (init : List Nat) (n : Nat) (hinit : init.length = n + 1) :
    ((⟨init, false⟩ : TBuf).writeRange 0 (List.replicate n 48)).write n 0 = ⟨List.replicate n 48 ++ [0], false⟩ := by
  have p := writeRange_in (List.replicate n 48) ⟨init, false⟩ 0 n (by simp) (by simp [hinit])
  have u := p.trans (write_in _ n 0 (by rw [p.len]; simp [hinit]))
  refine TBuf.ext_getD u.oob (by rw [u.len]; simp [hinit]) fun k => ?_
  rw [u.get, getD_snoc]
  by_cases c : k = n
  · rw [if_pos c, c, getD_of_le _ _ (by simp)]
  · rw [if_neg c]
    by_cases c2 : k < n
    · rw [if_pos ⟨Nat.zero_le _, c2⟩]; rfl
    · rw [if_neg (fun h => c2 h.2), getD_of_le _ _ (by simp; omega), getD_of_le _ _ (by simp; omega)]

theorem run_writes (b : TBuf) (ws we first : Nat) (hv : List Nat) (h1 : ws < we) (h2 : we < b.data.length)
    (hl : ws + hv.length = we) :
    Upd b (normalise (((b.writeRange ws hv).write we 0).write ws first) (we - (ws + 1)) (ws + 1)) fun k x =>
      if ws ≤ k ∧ k < we then (if k = ws then first else norm1 (hv.getD (k - ws) 0)) else if k = we then 0 else x := by
  have p := writeRange_in hv b ws we hl (Nat.le_of_lt h2)
  have q := p.trans (write_in _ we 0 (by rw [p.len]; exact h2))
  have r := q.trans (write_in _ ws first (by rw [q.len]; exact Nat.lt_trans h1 h2))
  refine (r.trans (normalise_in (we - (ws + 1)) _ (ws + 1) we (Nat.add_sub_cancel' h1)
    (by rw [r.len]; exact Nat.le_of_lt h2))).congr fun k => ?_
  by_cases c : ws ≤ k ∧ k < we
  · rw [if_pos c, if_pos c]
    by_cases c2 : k = ws
    · rw [if_pos c2, if_pos c2, if_neg (by omega)]
    · rw [if_neg c2, if_neg c2, if_pos (by omega), if_neg (by omega)]
  · rw [if_neg c, if_neg c, if_neg (by omega), if_neg (by omega)]

theorem walkStep_length (d : Dict) (n : Nat) (w : Walk) (i ch : Nat) :
    (walkStep d n w i ch).hyphens.length = w.hyphens.length := by
  unfold walkStep
  simp only
  split
  · rfl
  · split
    · rfl
    · split
      · rfl
      · exact (applyPat_spec _ _ _ _).2.1

theorem walkFrom_length (d : Dict) (n : Nat) (rest : List Nat) (i : Nat) (w : Walk) :
    (walkFrom d n rest i w).hyphens.length = w.hyphens.length := by
  fun_induction walkFrom d n rest i w with
  | case1 => rfl
  | case2 ch rest i w ih => rw [ih, walkStep_length]

theorem hyphenateWord_length (d : Dict) (lower : Nat → Nat) (w : List Nat) :
    (hyphenateWord d lower w).length = w.length := by
  rw [hyphenateWord, hyphenateWalk, walkFrom_length, length_replicate]

theorem findFrom_spec (p : Nat → Bool) (text : List Nat) (fuel k : Nat) (h1 : k ≤ text.length)
    (h2 : text.length - k ≤ fuel) :
    k ≤ findFrom p text fuel k ∧ findFrom p text fuel k ≤ text.length ∧
    (∀ j, k ≤ j → j < findFrom p text fuel k → p (text.getD j 0) = false) ∧
    (findFrom p text fuel k < text.length → p (text.getD (findFrom p text fuel k) 0) = true) := by
  fun_induction findFrom p text fuel k with
  | case1 k => exact ⟨Nat.le_refl _, h1, fun j a b => absurd a (Nat.not_le.mpr b), fun h => by omega⟩
  | case2 fuel k c ih =>
    obtain ⟨a0, a1, a, b⟩ := ih c.1 (by omega)
    refine ⟨Nat.le_of_succ_le a0, a1, fun j hj1 hj2 => ?_, b⟩
    rcases Nat.eq_or_lt_of_le hj1 with rfl | hj
    · simpa using c.2
    · exact a j hj hj2
  | case3 fuel k c =>
    refine ⟨Nat.le_refl _, h1, fun j a b => absurd a (Nat.not_le.mpr b), fun h => ?_⟩
    simpa using fun hh => c ⟨h, hh⟩

theorem findFrom_unique (p : Nat → Bool) (text : List Nat) (r : Nat) (h2 : r ≤ text.length)
    (h4 : r < text.length → p (text.getD r 0) = true) (fuel k : Nat) (h1 : k ≤ r) (hf : text.length - k ≤ fuel)
    (h3 : ∀ j, k ≤ j → j < r → p (text.getD j 0) = false) : findFrom p text fuel k = r := by
  obtain ⟨a0, a1, a, b⟩ := findFrom_spec p text fuel k (Nat.le_trans h1 h2) hf
  rcases Nat.lt_trichotomy (findFrom p text fuel k) r with h | h | h
  · have := b (Nat.lt_of_lt_of_le h h2); rw [h3 _ a0 h] at this; cases this
  · exact h
  · have := a r h1 h; rw [h4 (Nat.lt_of_lt_of_le h a1)] at this; cases this

theorem runStartAt_eq (cl : Classes) (text : List Nat) (ws : Nat)
    (hb : ws = 0 ∨ cl.isLetter (text.getD (ws - 1) 0) = false) (m : Nat)
    (h : ∀ j, ws ≤ j → j < ws + m → cl.isLetter (text.getD j 0) = true) : runStartAt cl text (ws + m) = ws := by
  induction m with
  | zero =>
    cases ws with
    | zero => rfl
    | succ w =>
      rw [runStartAt, if_neg]
      simpa using hb
  | succ m ih =>
    rw [← Nat.add_assoc, runStartAt, if_pos (h (ws + m) (Nat.le_add_right _ _) (by omega))]
    exact ih (fun j a b => h j a (by omega))

/-- `specChar` with the digit in front of letter `m` of a word left open (`dig word m`):
    position `k` of what text mode leaves -/
def charOf (dig : List Nat → Nat → Nat) (cl : Classes) (text : List Nat) (k : Nat) : Nat :=
  if !cl.isLetter (text.getD k 0) then 48 else
  let a := runStartAt cl text k
  if a = k then
    if k ≥ 2 ∧ cl.isHyphen (text.getD (k - 1) 0) ∧ cl.isLetter (text.getD (k - 2) 0) then 50 else 48
  else
    let b := findFrom (fun c => !cl.isLetter c) text text.length k
    let run := (text.drop a).take (b - a)
    if dig run (k - a) % 2 = 1 then 49 else 48

/-- by `rfl`: `charOf` repeats the text of `specChar` (LouModel/Hyph.lean) with `dig run` for
    `specDigitAt pats (prepWord cl.lower run)`, and the two have to stay equal word for word -/
theorem specChar_eq (pats : List Pat) (cl : Classes) (text : List Nat) :
    specChar pats cl text = charOf (fun w m => specDigitAt pats (prepWord cl.lower w) m) cl text := rfl

theorem charOf_nonletter {dig : List Nat → Nat → Nat} {cl : Classes} {text : List Nat} {k : Nat}
    (h : cl.isLetter (text.getD k 0) = false) : charOf dig cl text k = 48 := by
  rw [charOf, h]; rfl

theorem specChar_nonletter (pats : List Pat) (cl : Classes) (text : List Nat) (k : Nat)
    (h : cl.isLetter (text.getD k 0) = false) : specChar pats cl text k = 48 := by
  rw [specChar_eq]; exact charOf_nonletter h

theorem specText_getD (pats : List Pat) (cl : Classes) (text : List Nat) (k : Nat) :
    (specText pats cl text).getD k 0 = if k < text.length then specChar pats cl text k else 0 := by
  rw [specText, getD_snoc, getD_map_range]

theorem ite_char012 {c : Prop} [Decidable c] {a b : Nat} (ha : a = 48 ∨ a = 49 ∨ a = 50) (hb : b = 48 ∨ b = 49 ∨ b = 50) :
    (if c then a else b) = 48 ∨ (if c then a else b) = 49 ∨ (if c then a else b) = 50 := by
  split <;> assumption

/-- `charOf` is a nest of `if`s with leaves `'0'`, `'1'`, `'2'` -/
theorem charOf_cases (dig : List Nat → Nat → Nat) (cl : Classes) (text : List Nat) (k : Nat) :
    charOf dig cl text k = 48 ∨ charOf dig cl text k = 49 ∨ charOf dig cl text k = 50 :=
  ite_char012 (Or.inl rfl) (ite_char012 (ite_char012 (Or.inr (Or.inr rfl)) (Or.inl rfl))
    (ite_char012 (Or.inr (Or.inl rfl)) (Or.inl rfl)))

/-- `[ws, we)` is a maximal run of letters -/
structure IsRun (cl : Classes) (text : List Nat) (ws we : Nat) : Prop where
  lt : ws < we
  le : we ≤ text.length
  before : ws = 0 ∨ cl.isLetter (text.getD (ws - 1) 0) = false
  letters : ∀ j, ws ≤ j → j < we → cl.isLetter (text.getD j 0) = true
  after : we < text.length → cl.isLetter (text.getD we 0) = false

theorem charOf_run {dig : List Nat → Nat → Nat} {cl : Classes} {text : List Nat} {ws we : Nat}
    (r : IsRun cl text ws we) (k : Nat) (h1 : ws ≤ k) (h2 : k < we) :
    charOf dig cl text k =
      if k = ws then
        if ws ≥ 2 ∧ cl.isHyphen (text.getD (ws - 1) 0) ∧ cl.isLetter (text.getD (ws - 2) 0) then 50 else 48
      else norm1 (dig ((text.drop ws).take (we - ws)) (k - ws) + 48) := by
  have hst : runStartAt cl text k = ws := by
    have := runStartAt_eq cl text ws r.before (k - ws) (fun j a b => r.letters j a (by omega))
    rwa [Nat.add_sub_cancel' h1] at this
  have hwe : findFrom (fun c => !cl.isLetter c) text text.length k = we :=
    findFrom_unique _ text we r.le (fun h => by rw [r.after h]; rfl) _ k (Nat.le_of_lt h2) (by omega)
      (fun j a b => by rw [r.letters j (Nat.le_trans h1 a) b]; rfl)
  rw [charOf, r.letters k h1 h2]
  simp only [hst, hwe, Bool.not_true, Bool.false_eq_true, if_false]
  by_cases e : k = ws
  · subst e; rw [if_pos rfl, if_pos rfl]
  · -- the array holds the character `'0' + d` and is normalised by the parity of the character;
    -- `'0'` = 48 is even, so that is the parity of the digit `d`
    rw [if_neg (Ne.symm e), if_neg e, norm1, Nat.add_mod, Nat.add_zero, Nat.mod_mod]

theorem IsRun.find {cl : Classes} {text : List Nat} {ws0 ws we : Nat} (h0 : ws0 ≤ text.length)
    (hbd : ws0 = 0 ∨ cl.isLetter (text.getD (ws0 - 1) 0) = false)
    (hws : findFrom cl.isLetter text text.length ws0 = ws)
    (hwe : findFrom (fun c => !cl.isLetter c) text text.length (ws + 1) = we) :
    ws0 ≤ ws ∧ (∀ k, ws0 ≤ k → k < ws → cl.isLetter (text.getD k 0) = false) ∧
    (ws < text.length → IsRun cl text ws we) := by
  obtain ⟨a1, _, a3, a4⟩ := findFrom_spec cl.isLetter text text.length ws0 h0 (Nat.sub_le _ _)
  rw [hws] at a1 a3 a4
  refine ⟨a1, a3, fun c => ?_⟩
  obtain ⟨e1, e2, e3, e4⟩ := findFrom_spec (fun c => !cl.isLetter c) text text.length (ws + 1) c (Nat.sub_le _ _)
  rw [hwe] at e1 e2 e3 e4
  refine ⟨e1, e2, ?_, fun j hj1 hj2 => ?_, fun h => by simpa using e4 h⟩
  · rcases Nat.eq_or_lt_of_le a1 with rfl | h
    · exact hbd
    · exact Or.inr (a3 (ws - 1) (by omega) (by omega))
  · rcases Nat.eq_or_lt_of_le hj1 with rfl | h
    · exact a4 c
    · simpa using e3 j h hj2

/-- the array when the loop stands at `ws0`: in front of `ws0`, and at every non-letter, the
    final character (`'0'` was put everywhere at the start); the NUL in place -/
structure TInv (C : Nat → Nat) (cl : Classes) (text : List Nat) (ws0 : Nat) (b : TBuf) : Prop where
  oob : b.oob = false
  len : b.data.length = text.length + 1
  done : ∀ k, k < text.length → (k < ws0 ∨ cl.isLetter (text.getD k 0) = false) → b.data.getD k 0 = C k
  nul : b.data.getD text.length 0 = 0

theorem TInv.skip {C : Nat → Nat} {cl : Classes} {text : List Nat} {ws0 ws : Nat} {b : TBuf}
    (f : TInv C cl text ws0 b) (h : ∀ k, ws0 ≤ k → k < ws → cl.isLetter (text.getD k 0) = false) :
    TInv C cl text ws b :=
  ⟨f.oob, f.len, fun k hk hd => f.done k hk
    (hd.elim (fun hd => (Nat.lt_or_ge k ws0).imp_right fun h0 => h k h0 hd) Or.inr), f.nul⟩

/-- the writes of the run `[ws, we)` make everything up to `we` final, but for the `0` that
    hyphenateWord leaves at `we`; unless the text ends there the loop puts `'0'` back -/
theorem TInv.run {dig : List Nat → Nat → Nat} {cl : Classes} {text : List Nat} {ws we : Nat} {b B : TBuf}
    (f : TInv (charOf dig cl text) cl text ws b) (r : IsRun cl text ws we) {hv : List Nat} (hl : ws + hv.length = we)
    (hvd : ∀ m, m < we - ws → hv.getD m 0 = dig ((text.drop ws).take (we - ws)) m + 48)
    (hB : normalise (((b.writeRange ws hv).write we 0).write ws
      (if ws ≥ 2 ∧ cl.isHyphen (text.getD (ws - 1) 0) = true ∧ cl.isLetter (text.getD (ws - 2) 0) = true then 50 else 48))
      (we - (ws + 1)) (ws + 1) = B) :
    (we = text.length → TInv (charOf dig cl text) cl text text.length B) ∧
    (we < text.length → TInv (charOf dig cl text) cl text (we + 1) (B.write we 48)) := by
  have hwe := r.le
  have U : Upd b B _ := hB ▸ run_writes b ws we _ hv r.lt (by rw [f.len]; omega) hl
  have fin : ∀ k, k < text.length → k ≠ we → (k < we ∨ cl.isLetter (text.getD k 0) = false) →
      B.data.getD k 0 = charOf dig cl text k := by
    intro k hk hkwe h
    rw [U.get k]
    by_cases c : ws ≤ k ∧ k < we
    · rw [if_pos c, charOf_run r k c.1 c.2, hvd _ (Nat.sub_lt_sub_right c.1 c.2)]
    · rw [if_neg c, if_neg hkwe]
      exact f.done k hk (h.imp_left fun h => by omega)
  have nul : B.data.getD text.length 0 = 0 := by
    rw [U.get, if_neg (by omega)]
    split
    · rfl
    · exact f.nul
  refine ⟨fun e => ⟨U.oob.trans f.oob, U.len.trans f.len, fun k hk _ => fin k hk (by omega) (Or.inl (by omega)), nul⟩,
    fun hlt => ?_⟩
  have t := write_in B we 48 (by rw [U.len, f.len]; omega)
  refine ⟨t.oob.trans (U.oob.trans f.oob), t.len.trans (U.len.trans f.len), fun k hk h => ?_, ?_⟩
  · rw [t.get k]
    by_cases c : k = we
    · rw [if_pos c, c, charOf_nonletter (r.after hlt)]
    · rw [if_neg c]
      exact fin k hk c (h.imp_left fun h => by omega)
  · rw [t.get, if_neg (by omega)]; exact nul

theorem wordLoop_spec (d : Dict) (cl : Classes) (text : List Nat) (hlen : text.length + 3 ≤ MAXSTRING)
    (dig : List Nat → Nat → Nat)
    (hdig : ∀ w m, m < w.length → (hyphenateWord d cl.lower w).getD m 0 = dig w m)
    (fuel ws0 : Nat) (b : TBuf) (hws0 : ws0 ≤ text.length) (hfuel : text.length + 1 ≤ ws0 + fuel)
    (hbd : ws0 = 0 ∨ cl.isLetter (text.getD (ws0 - 1) 0) = false) (f : TInv (charOf dig cl text) cl text ws0 b) :
    ∃ b', wordLoop d cl text fuel ws0 b = some b' ∧ TInv (charOf dig cl text) cl text text.length b' := by
  induction fuel generalizing ws0 b with
  | zero => omega
  | succ fuel ih =>
    simp only [wordLoop]
    generalize hws : findFrom cl.isLetter text text.length ws0 = ws
    generalize hwe : findFrom (fun c => !cl.isLetter c) text text.length (ws + 1) = we
    obtain ⟨a1, a3, run⟩ := IsRun.find hws0 hbd hws hwe
    replace f := f.skip a3
    by_cases c : ws ≥ text.length
    · rw [if_pos c]
      exact ⟨b, rfl, f.oob, f.len, fun k hk _ => f.done k hk (Or.inl (Nat.lt_of_lt_of_le hk c)), f.nul⟩
    · replace run := run (Nat.lt_of_not_le c)
      have hle := run.le
      have hwl : ((text.drop ws).take (we - ws)).length = we - ws := by
        rw [length_take, length_drop, Nat.min_eq_left (Nat.sub_le_sub_right hle ws)]
      rw [if_neg c, if_neg (by rw [hwl]; omega)]
      generalize hB : normalise _ _ _ = B
      obtain ⟨x1, x2⟩ := f.run run (by rw [length_map, hyphenateWord_length, hwl, Nat.add_sub_cancel' (Nat.le_of_lt run.lt)])
        (fun m hm => by
          rw [← hdig _ m (by rw [hwl]; exact hm)]
          simp [hyphenateWord_length, hwl, hm]) hB
      by_cases cw : we = text.length
      · rw [if_pos cw]
        exact ⟨B, rfl, x1 cw⟩
      · rw [if_neg cw]
        have hlt := Nat.lt_of_le_of_ne hle cw
        have := run.lt
        exact ih (we + 1) _ hlt (by omega) (Or.inr (run.after hlt)) (x2 hlt)

theorem textHyphens_eq (d : Dict) (cl : Classes) (text init : List Nat)
    (hinit : init.length = text.length + 1) (hl : text.length + 3 ≤ MAXSTRING) (dig : List Nat → Nat → Nat)
    (hdig : ∀ w m, m < w.length → (hyphenateWord d cl.lower w).getD m 0 = dig w m) :
    textHyphens d cl text init = some ⟨(List.range text.length).map (charOf dig cl text) ++ [0], false⟩ := by
  have init0 : TInv (charOf dig cl text) cl text 0 ⟨List.replicate text.length 48 ++ [0], false⟩ := by
    refine ⟨rfl, by simp, fun k hk h => ?_, by simp⟩
    rw [charOf_nonletter (h.resolve_left (Nat.not_lt_zero k))]
    simp [List.getElem?_append_left, hk]
  obtain ⟨b', hb, f⟩ := wordLoop_spec d cl text hl dig hdig (text.length + 1) 0 _ (Nat.zero_le _) (Nat.le_add_left _ _)
    (Or.inl rfl) init0
  rw [textHyphens, init_buf init _ hinit, hb]
  refine congrArg some (TBuf.ext_getD f.oob (by simp [f.len]) fun k => ?_)
  rw [getD_snoc, getD_map_range]
  split
  · rename_i hk; exact f.done k hk (Or.inl hk)
  · rename_i hk
    rcases Nat.eq_or_lt_of_le (Nat.le_of_not_lt hk) with rfl | h
    · exact f.nul
    · exact getD_of_le _ _ (by rw [f.len]; omega)

theorem louHyphenateText_refused {dict : Option Dict} (cl : Classes) {inbuf : List Nat} (init : List Nat)
    (h : dict = none ∨ inbuf.length ≥ HYPHSTRING) : louHyphenateText dict cl inbuf init = (0, ⟨init, false⟩) := by
  cases dict with
  | none => rfl
  | some d => exact if_pos (h.resolve_left nofun)

theorem louHyphenateText_accepted (d : Dict) (cl : Classes) {inbuf : List Nat} (init : List Nat)
    (h : inbuf.length < HYPHSTRING) :
    louHyphenateText (some d) cl inbuf init =
      match textHyphens d cl inbuf init with
      | none => (0, ⟨init, false⟩)
      | some b => (1, b) :=
  if_neg (Nat.not_le.mpr h)

theorem louHyphenateBraille_refused {dict : Option Dict} (cl : Classes) {inlen : Nat}
    (bt : Option (List Nat × List Int)) (init : List Nat) (h : dict = none ∨ inlen ≥ HYPHSTRING) :
    louHyphenateBraille dict cl inlen bt init = (0, ⟨init, false⟩) := by
  cases dict with
  | none => rfl
  | some d => exact if_pos (h.resolve_left nofun)

theorem louHyphenateBraille_accepted (d : Dict) (cl : Classes) {inlen : Nat} (bt : Option (List Nat × List Int))
    (init : List Nat) (h : inlen < HYPHSTRING) :
    louHyphenateBraille (some d) cl inlen bt init =
      match bt with
      | none => (0, ⟨init, false⟩)
      | some (text, inputPos) =>
        match textHyphens d cl text (List.replicate (text.length + 1) 0) with
        | none => (0, ⟨init, false⟩)
        | some th =>
          (1, mapLoop inlen (th.data.zip inputPos) (-1)
            (((⟨init, false⟩ : TBuf).writeRange 0 (List.replicate inlen 48)).write inlen 0)) :=
  if_neg (Nat.not_le.mpr h)

/-- what the property demands of the array: inlen characters from {'0','1','2'} and a NUL,
    nothing written beyond -/
structure Fmt (n : Nat) (b : TBuf) : Prop where
  oob : b.oob = false
  len : b.data.length = n + 1
  chars : ∀ k, k < n → b.data.getD k 0 = 48 ∨ b.data.getD k 0 = 49 ∨ b.data.getD k 0 = 50
  nul : b.data.getD n 0 = 0

theorem Fmt.write {n : Nat} {b : TBuf} (f : Fmt n b) {i v : Nat} (hi : i < n) (hv : v = 48 ∨ v = 49 ∨ v = 50) :
    Fmt n (b.write i v) := by
  have w := write_in b i v (by rw [f.len]; omega)
  refine ⟨w.oob.trans f.oob, w.len.trans f.len, fun k hk => ?_, ?_⟩
  · rw [w.get k]
    split
    · exact hv
    · exact f.chars k hk
  · rw [w.get, if_neg (by omega)]; exact f.nul

theorem fmt_map (n : Nat) (f : Nat → Nat) (hf : ∀ k, f k = 48 ∨ f k = 49 ∨ f k = 50) :
    Fmt n ⟨(List.range n).map f ++ [0], false⟩ := by
  refine ⟨rfl, by simp, fun k hk => ?_, ?_⟩
  · simp only [getD_snoc, getD_map_range, if_pos hk]; exact hf k
  · simp only [getD_snoc, getD_map_range, if_neg (Nat.lt_irrefl n)]

theorem add_three_le_MAXSTRING {n : Nat} (h : n ≤ HYPHSTRING) : n + 3 ≤ MAXSTRING := by
  simp only [HYPHSTRING, MAXSTRING] at *; omega

theorem textHyphens_fmt (d : Dict) (cl : Classes) (text init : List Nat)
    (hinit : init.length = text.length + 1) (hl : text.length + 3 ≤ MAXSTRING) :
    ∃ b, textHyphens d cl text init = some b ∧ Fmt text.length b :=
  ⟨_, textHyphens_eq d cl text init hinit hl _ (fun _ _ _ => rfl), fmt_map _ _ (charOf_cases _ cl text)⟩

theorem mapLoop_inv (inlen : Nat) (Q : TBuf → Prop) (L : List (Nat × Int)) (prev : Int) (b : TBuf)
    (hw : ∀ e ∈ L, ∀ b, 0 ≤ e.2 → e.2 ≤ (inlen : Int) → Q b → Q (b.write e.2.toNat e.1)) (q : Q b) :
    Q (mapLoop inlen L prev b) := by
  fun_induction mapLoop inlen L prev b with
  | case1 | case2 => exact q
  | case3 h bp rest prev b c _ ih =>
    exact ih (fun e he => hw e (mem_cons_of_mem _ he)) (hw (h, bp) mem_cons_self b (by omega) (by omega) q)
  | case4 h bp rest prev b _ _ ih => exact ih (fun e he => hw e (mem_cons_of_mem _ he)) q

end Lou.Hyph
