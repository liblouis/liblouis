/-
  `LouModel/Engine.lean` picks one of two engines per direction by a test on the table; a fact about the engine a
  whole call runs is proved of both.
-/
import LouModel.Engine

namespace Lou.Engine
open Lou Lou.Gen Lou.Drv

theorem engineFor_elim {P : Engine → Prop} (t : Table) (hC : P (modelEngineC t)) (h0 : P (modelEngine t)) :
    P (engineFor t) := by
  unfold engineFor
  split
  · exact hC
  · exact h0

theorem engineForBack_elim {P : Engine → Prop} (t : Table) (hC : P (modelEngineBackC t))
    (h0 : P (modelEngineBack t)) : P (engineForBack t) := by
  unfold engineForBack
  split
  · exact hC
  · exact h0

end Lou.Engine
