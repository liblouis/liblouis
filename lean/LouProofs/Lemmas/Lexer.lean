/-
  The state machines `getAChar` / `getALine` / `fileLines` of LouModel/Lexer.lean compute the pure functions
  `decode` / `splitLines` of the bytes.  A reader state `(bs, h)` stands for the character stream
  `remaining bs h`; getAChar takes its head off and decreases `mu` (`GetACharSpec`), and the line loops follow
  the three equations of `splitLines`.  Beside them the laws of `splitLines` and `tokens` (runs without a line end or
  without a blank, concatenation at an LF, the line cap).
-/
import LouModel.Lexer

namespace Lou.Lexer

/-- progress measure of the reader: the unread bytes, and one for a byte that is held back — the second byte of an
    "ASCII 8" file before it is delivered (the middle summand is the body of the model's `pend h`, written out), the
    first byte of any file until the second decides the encoding -/
def mu (bs : List Nat) (h : Hdr) : Nat :=
  bs.length + (if h.enc = .ascii8 ∧ h.status = 2 then 1 else 0) + (if h.enc = .noEncoding ∧ h.status = 1 then 1 else 0)

def GetACharSpec (bs : List Nat) (h : Hdr) (r : Option Nat × List Nat × Hdr) : Prop :=
  match r with
  | (none, bs', h') => remaining bs h = [] ∧ remaining bs' h' = [] ∧ h'.wf ∧ mu bs' h' ≤ mu bs h
  | (some c, bs', h') => remaining bs h = c :: remaining bs' h' ∧ h'.wf ∧ mu bs' h' < mu bs h

theorem GetACharSpec.transfer {bs bs0 : List Nat} {h h0 : Hdr} {r} (hs : GetACharSpec bs h r)
    (hr : remaining bs0 h0 = remaining bs h) (hm : mu bs h ≤ mu bs0 h0) : GetACharSpec bs0 h0 r := by
  obtain ⟨o, bs', h'⟩ := r
  cases o with
  | none => exact ⟨hr ▸ hs.1, hs.2.1, hs.2.2.1, Nat.le_trans hs.2.2.2 hm⟩
  | some c => exact ⟨hr ▸ hs.1, hs.2.1, Nat.lt_of_lt_of_le hs.2.2 hm⟩

theorem getACharLoop_first {ch1 : Nat} {bs : List Nat} {ce0 ce1 errs : Nat} :
    getACharLoop (ch1 :: bs) ⟨.noEncoding, 0, ce0, ce1, errs⟩ = getACharLoop bs ⟨.noEncoding, 1, ch1, ce1, errs⟩ := by
  simp [getACharLoop]

theorem getACharLoop_second {ch1 : Nat} {bs : List Nat} {enc : Enc} {ce0 ce1 errs : Nat} :
    getACharLoop (ch1 :: bs) ⟨enc, 1, ce0, ce1, errs⟩ =
      if ce0 = 0xfe ∧ ch1 = 0xff then getACharLoop bs ⟨.bigEndian, 2, ce0, ch1, errs⟩
      else if ce0 = 0xff ∧ ch1 = 0xfe then getACharLoop bs ⟨.littleEndian, 2, ce0, ch1, errs⟩
      else if ce0 < 128 ∧ ch1 < 128 then (some ce0, bs, ⟨.ascii8, 2, ce0, ch1, errs⟩)
      else (none, bs, ⟨enc, 2, ce0, ch1, errs + 1⟩) := by
  simp [getACharLoop]

theorem getACharLoop_later {ch1 : Nat} {bs : List Nat} {enc : Enc} {status ce0 ce1 errs : Nat} (hs : 2 ≤ status) :
    getACharLoop (ch1 :: bs) ⟨enc, status, ce0, ce1, errs⟩ =
      match enc with
      | .noEncoding => getACharLoop bs ⟨enc, status + 1, ce0, ce1, errs⟩
      | .ascii8 => (some ch1, bs, ⟨enc, status + 1, ce0, ce1, errs⟩)
      | .bigEndian =>
        match bs with
        | [] => (none, [], ⟨enc, status + 1, ce0, ce1, errs⟩)
        | ch2 :: bs' => (some ((ch1 * 256 + ch2) % 65536), bs', ⟨enc, status + 1, ce0, ce1, errs⟩)
      | .littleEndian =>
        match bs with
        | [] => (none, [], ⟨enc, status + 1, ce0, ce1, errs⟩)
        | ch2 :: bs' => (some ((ch2 * 256 + ch1) % 65536), bs', ⟨enc, status + 1, ce0, ce1, errs⟩) := by
  have h0 : status ≠ 0 := by omega
  have h1 : status ≠ 1 := by omega
  simp [getACharLoop, h0, h1]
  cases enc <;> rfl

theorem remaining_nil (h : Hdr) (hn : ¬(h.enc = .ascii8 ∧ h.status = 2)) : remaining [] h = [] := by
  obtain ⟨enc, status, ce0, ce1, errs⟩ := h
  cases enc
  · simp [remaining, decode]
  · rfl
  · rfl
  · exact if_neg fun hs => hn ⟨rfl, hs⟩

theorem getACharLoop_spec (bs : List Nat) (h : Hdr) (hw : h.wf) (hn : ¬(h.enc = .ascii8 ∧ h.status = 2)) :
    GetACharSpec bs h (getACharLoop bs h) := by
  induction bs generalizing h with
  | nil => exact ⟨remaining_nil h hn, remaining_nil h hn, hw, Nat.le_refl _⟩
  | cons ch1 bs ih =>
    obtain ⟨enc, status, ce0, ce1, errs⟩ := h
    match status, hw, hn with
    | 0, hw, _ =>
      obtain rfl : enc = .noEncoding := by simpa [Hdr.wf] using hw
      rw [getACharLoop_first]
      exact (ih _ (Or.inl rfl) (by simp)).transfer (by simp [remaining]) (by simp [mu])
    | 1, hw, _ =>
      obtain rfl : enc = .noEncoding := by simpa [Hdr.wf] using hw
      rw [getACharLoop_second]
      by_cases hbe : ce0 = 0xfe ∧ ch1 = 0xff
      · rw [if_pos hbe]
        exact (ih _ (Or.inr (Nat.le_refl _)) (by simp)).transfer (by simp [remaining, decode, hbe]) (by simp [mu]; omega)
      rw [if_neg hbe]
      by_cases hle : ce0 = 0xff ∧ ch1 = 0xfe
      · rw [if_pos hle]
        exact (ih _ (Or.inr (Nat.le_refl _)) (by simp)).transfer (by simp [remaining, decode, hle]) (by simp [mu]; omega)
      rw [if_neg hle]
      by_cases ha : ce0 < 128 ∧ ch1 < 128
      · rw [if_pos ha]
        exact ⟨by simp [remaining, decode, hbe, hle, ha], Or.inr (Nat.le_refl _), by simp [mu]⟩
      · rw [if_neg ha]
        exact ⟨by simp [remaining, decode, hbe, hle, ha], by simp [remaining], Or.inl rfl, by simp [mu]; omega⟩
    | n + 2, hw, hn =>
      rw [getACharLoop_later (by omega)]
      cases enc with
      | noEncoding => exact (ih _ (Or.inl rfl) (by simp)).transfer (by simp [remaining]) (by simp [mu])
      | ascii8 =>
        have : n ≠ 0 := fun h => hn ⟨rfl, by simp [h]⟩
        simp [GetACharSpec, remaining, Hdr.wf, mu, this]
      | bigEndian => cases bs <;> simp [GetACharSpec, remaining, pairsBE, Hdr.wf, mu]
      | littleEndian => cases bs <;> simp [GetACharSpec, remaining, pairsLE, Hdr.wf, mu]

theorem getAChar_spec (bs : List Nat) (h : Hdr) (hw : h.wf) : GetACharSpec bs h (getAChar bs h) := by
  unfold getAChar
  by_cases hp : h.enc = .ascii8 ∧ h.status = 2
  · rw [if_pos hp]
    obtain ⟨enc, status, ce0, ce1, errs⟩ := h
    obtain ⟨rfl, rfl⟩ := hp
    simp [GetACharSpec, remaining, Hdr.wf, mu]
  · rw [if_neg hp]
    exact getACharLoop_spec bs h hw hp

theorem wf_init : ({} : Hdr).wf := Or.inl rfl

theorem remaining_init (bs : List Nat) : remaining bs {} = decode bs := by
  simp [remaining]

theorem mu_init (bs : List Nat) : mu bs {} = bs.length := by
  simp [mu]

theorem getAChar_some {bs bs' : List Nat} {h h' : Hdr} {c : Nat} (hw : h.wf) (e : getAChar bs h = (some c, bs', h')) :
    remaining bs h = c :: remaining bs' h' ∧ h'.wf ∧ mu bs' h' < mu bs h := by
  have := getAChar_spec bs h hw; rwa [e] at this

theorem getAChar_none {bs bs' : List Nat} {h h' : Hdr} (hw : h.wf) (e : getAChar bs h = (none, bs', h')) :
    remaining bs h = [] ∧ remaining bs' h' = [] ∧ h'.wf ∧ mu bs' h' ≤ mu bs h := by
  have := getAChar_spec bs h hw; rwa [e] at this

theorem splitLines_cr (cs cur : List Nat) : splitLines (13 :: cs) cur = splitLines cs cur := by
  rw [splitLines, if_pos rfl]

theorem splitLines_break {c : Nat} {cs cur : List Nat} (h13 : c ≠ 13)
    (hb : c = 10 ∨ MAXSTRING - 1 ≤ cur.length) : splitLines (c :: cs) cur = cur :: splitLines cs [] := by
  rw [splitLines, if_neg h13, if_pos hb]

theorem splitLines_push {c : Nat} {cs cur : List Nat} (h13 : c ≠ 13)
    (hb : ¬(c = 10 ∨ MAXSTRING - 1 ≤ cur.length)) : splitLines (c :: cs) cur = splitLines cs (cur ++ [c]) := by
  rw [splitLines, if_neg h13, if_neg hb]

theorem splitLines_run (rest l cur : List Nat) (h : ∀ c ∈ l, c ≠ 10 ∧ c ≠ 13)
    (hlen : cur.length + l.length ≤ MAXSTRING - 1) : splitLines (l ++ rest) cur = splitLines rest (cur ++ l) := by
  induction l generalizing cur with
  | nil => simp
  | cons c l ih =>
    have hc := h c (by simp)
    simp only [List.length_cons] at hlen
    rw [List.cons_append, splitLines_push hc.2 (by omega),
      ih _ (fun x hx => h x (by simp [hx])) (by simp; omega), List.append_assoc]
    rfl

theorem splitLines_append_lf (a b cur : List Nat) :
    splitLines (a ++ 10 :: b) cur = splitLines (a ++ [10]) cur ++ splitLines b [] := by
  have lf : ∀ cs cur, splitLines (10 :: cs) cur = cur :: splitLines cs [] := fun _ _ =>
    splitLines_break (by decide) (Or.inl rfl)
  fun_induction splitLines a cur with
  | case1 | case2 => rw [List.nil_append, List.nil_append, lf, lf]; rfl
  | case3 _ _ ih => rw [List.cons_append, List.cons_append, splitLines_cr, splitLines_cr]; exact ih
  | case4 _ _ _ h13 hb ih =>
    rw [List.cons_append, List.cons_append, splitLines_break h13 hb, splitLines_break h13 hb, ih]; rfl
  | case5 _ _ _ h13 hb ih =>
    rw [List.cons_append, List.cons_append, splitLines_push h13 hb, splitLines_push h13 hb]; exact ih

theorem splitLines_bound (cs cur : List Nat) (hc : cur.length ≤ MAXSTRING - 1) :
    ∀ l ∈ splitLines cs cur, l.length ≤ MAXSTRING - 1 := by
  fun_induction splitLines cs cur with
  | case1 => simp
  | case2 => simpa using hc
  | case3 _ _ ih => exact ih hc
  | case4 _ _ _ _ _ ih => simpa [hc] using ih (by simp)
  | case5 _ _ _ _ hb ih => exact ih (by simp at hb ⊢; omega)

theorem readCharsLoop_spec (f : Nat) (bs : List Nat) (h : Hdr) (acc : List Nat) (hw : h.wf) (hf : mu bs h < f) :
    (readCharsLoop f bs h acc).1 = acc ++ remaining bs h := by
  fun_induction readCharsLoop f bs h acc with
  | case1 => omega
  | case2 => rename_i e; simp [(getAChar_none hw e).1]
  | case3 =>
    rename_i e ih
    obtain ⟨hr, hw', hm⟩ := getAChar_some hw e
    rw [ih hw' (by omega), hr]
    simp

/-- the last conjunct: every character the loop takes — appended to the line, or ending it — costs a unit of `mu` -/
theorem getALineLoop_spec (f : Nat) (bs : List Nat) (h : Hdr) (line : List Nat) (hw : h.wf) (hf : mu bs h < f) :
    match getALineLoop f bs h line with
    | (e, l, bs', h') =>
      splitLines (remaining bs h) line =
        (if e then (if l.isEmpty then [] else [l]) else l :: splitLines (remaining bs' h') []) ∧
      (e = true → remaining bs' h' = []) ∧ h'.wf ∧
      mu bs' h' + l.length + (if e then 0 else 1) ≤ mu bs h + line.length := by
  fun_induction getALineLoop f bs h line with
  | case1 => omega
  | case2 =>
    rename_i e
    obtain ⟨hr, hr', hw', hm⟩ := getAChar_none hw e
    simp [hr, hr', hw', hm, splitLines]
  | case3 =>
    rename_i e ih
    obtain ⟨hr, hw', hm⟩ := getAChar_some hw e
    obtain ⟨h1, h2, h3, h4⟩ := ih hw' (by omega)
    rw [hr, splitLines_cr]
    exact ⟨h1, h2, h3, by omega⟩
  | case4 =>
    rename_i e h13 hb
    obtain ⟨hr, hw', hm⟩ := getAChar_some hw e
    rw [hr, splitLines_break h13 hb]
    exact ⟨rfl, fun hh => (Bool.false_ne_true hh).elim, hw', by simp; omega⟩
  | case5 =>
    rename_i e h13 hb ih
    obtain ⟨hr, hw', hm⟩ := getAChar_some hw e
    obtain ⟨h1, h2, h3, h4⟩ := ih hw' (by omega)
    rw [List.length_append, List.length_singleton] at h4
    rw [hr, splitLines_push h13 hb]
    exact ⟨h1, h2, h3, by omega⟩

theorem mu_lt_fuel (bs : List Nat) (h : Hdr) : mu bs h < bs.length + 2 := by
  unfold mu; split <;> split <;> omega

theorem getALine_spec {bs l bs' : List Nat} {h h' : Hdr} {ret : Bool} (hw : h.wf) (e : getALine bs h = (ret, l, bs', h')) :
    splitLines (remaining bs h) [] = (if ret then l :: splitLines (remaining bs' h') [] else []) ∧
    (ret = false → remaining bs' h' = []) ∧ h'.wf ∧ mu bs' h' ≤ mu bs h ∧ (ret = true → mu bs' h' < mu bs h) := by
  have := getALineLoop_spec (bs.length + 2) bs h [] hw (mu_lt_fuel bs h)
  unfold getALine at e
  generalize getALineLoop (bs.length + 2) bs h [] = r at this e
  obtain ⟨eof, l0, bs0, h0⟩ := r
  obtain ⟨hs, hr, hw', hm⟩ := this
  cases e
  cases eof with
  | false =>
    have hlt : mu bs' h' < mu bs h := by simp at hm; omega
    exact ⟨hs, fun hh => by simp at hh, hw', Nat.le_of_lt hlt, fun _ => hlt⟩
  | true =>
    cases l with
    | nil => exact ⟨hs, fun _ => hr rfl, hw', hm, fun hh => by simp at hh⟩
    | cons c l =>
      have hlt : mu bs' h' < mu bs h := by simp at hm; omega
      exact ⟨by rw [hs, hr rfl]; rfl, fun hh => by simp at hh, hw', Nat.le_of_lt hlt, fun _ => hlt⟩

theorem fileLinesLoop_spec (f : Nat) (bs : List Nat) (h : Hdr) (acc : List (List Nat)) (hw : h.wf) (hf : mu bs h < f) :
    (fileLinesLoop f bs h acc).1 = acc ++ splitLines (remaining bs h) [] ∧
    (fileLinesLoop f bs h acc).1.length ≤ acc.length + mu bs h := by
  fun_induction fileLinesLoop f bs h acc with
  | case1 => omega
  | case2 => rename_i e; simp [(getALine_spec hw e).1]
  | case3 =>
    rename_i e ih
    obtain ⟨hs, -, hw', -, hlt⟩ := getALine_spec hw e
    have hm := hlt rfl
    obtain ⟨h1, h2⟩ := ih hw' (by omega)
    simp only [List.length_append, List.length_cons, List.length_nil] at h2
    exact ⟨by rw [h1, hs]; simp, by omega⟩

theorem tokens_skip_ws (ws r : List Nat) (h : ∀ c ∈ ws, c ≤ 32) : tokens (ws ++ r) [] = tokens r [] := by
  induction ws with
  | nil => rfl
  | cons c ws ih =>
    rw [List.cons_append, tokens.eq_2, if_pos (h c (by simp))]
    simpa using ih (fun x hx => h x (by simp [hx]))

theorem tokens_ws (ws cur : List Nat) (h : ∀ c ∈ ws, c ≤ 32) : tokens ws cur = tokens [] cur := by
  cases ws with
  | nil => rfl
  | cons c ws =>
    have := tokens_skip_ws ws [] fun x hx => h x (by simp [hx])
    rw [List.append_nil] at this
    rw [tokens.eq_2, if_pos (h c (by simp)), this]
    rfl

theorem tokens_take_word (a r cur : List Nat) (h : ∀ c ∈ a, 32 < c) : tokens (a ++ r) cur = tokens r (cur ++ a) := by
  induction a generalizing cur with
  | nil => simp
  | cons c a ih =>
    have hc := h c (by simp)
    rw [List.cons_append, tokens.eq_2, if_neg (by omega), ih _ (fun x hx => h x (by simp [hx]))]
    simp

theorem tokens_dropWhile (l : List Nat) : tokens (l.dropWhile (· ≤ 32)) [] = tokens l [] := by
  conv => rhs; rw [← List.takeWhile_append_dropWhile (p := (· ≤ 32)) (l := l)]
  exact (tokens_skip_ws _ _ fun c hc => by simpa using List.all_eq_true.mp List.all_takeWhile c hc).symm

theorem tokens_flush (r : List Nat) {cur : List Nat} (hc : cur ≠ []) (hr : ∀ c, r.head? = some c → c ≤ 32) :
    tokens r cur = cur :: tokens r [] := by
  cases r with
  | nil => simp [tokens, hc]
  | cons d r => simp [tokens, hr d rfl, hc]

end Lou.Lexer
