/-
  The walk of hyphenateWord over a correct automaton (`DictOK`) computes the property.
-/
import LouModel.Hyph
import LouProofs.Lemmas.Hyph

namespace Lou.Hyph
open List

/-- no digit-only line -/
def WFPats (pats : List Pat) : Prop := ∀ p ∈ pats, p.rest ≠ []

instance (pats : List Pat) : Decidable (WFPats pats) := by unfold WFPats; infer_instance

theorem WFPats.digitsOf_nil {pats : List Pat} (wf : WFPats pats) : digitsOf pats [] = none := by
  refine Option.eq_none_iff_forall_ne_some.mpr fun ds hdg => ?_
  obtain ⟨p, hp, hl, _⟩ := digitsOf_some hdg
  exact absurd (by simpa [Pat.letters] using hl) (wf p hp)

section
variable {pats : List Pat} {d : Dict} {key : Nat → List Nat}

theorem DictOK.find (ok : DictOK pats d key) {i : Nat} {s : HState} (hs : d[i]? = some s) (c : Nat) :
    match s.trans.find? (fun e => e.1 == c) with
    | some e => e.2 < d.size ∧ key e.2 = key i ++ [c]
    | none => isPatPrefix pats (key i ++ [c]) = false := by
  cases hf : s.trans.find? (fun e => e.1 == c) with
  | some e =>
    have h1 : e.1 = c := by simpa using find?_some hf
    exact (ok.trans i s hs c e.2).mp (h1 ▸ mem_of_find?_eq_some hf)
  | none =>
    refine Bool.eq_false_iff.mpr fun hp => ?_
    obtain ⟨j, hj, hk⟩ := ok.all _ hp
    simpa using find?_eq_none.mp hf (c, j) ((ok.trans i s hs c j).mpr ⟨hj, hk⟩)

/-- the middle conjunct is the potential argument behind the linear bound on the walk:
    iterations + depth reached ≤ depth before + 2 -/
theorem seek_spec (ok : DictOK pats d key) (c fuel st t : Nat) (hst : st < d.size)
    (hfuel : (key st).length + 2 ≤ fuel) :
    (seek d c fuel st t).fault = none ∧
    (seek d c fuel st t).ticks + (lssD (isPatPrefix pats) (key st ++ [c])).length ≤ t + (key st).length + 2 ∧
    match (seek d c fuel st t).next with
    | some j => j < d.size ∧ key j = lssD (isPatPrefix pats) (key st ++ [c])
    | none => lssD (isPatPrefix pats) (key st ++ [c]) = [] := by
  fun_induction seek d c fuel st t with
  | case1 => omega
  | case2 => exact absurd (Nat.lt_of_lt_of_le hst ok.size_le) (Nat.lt_irrefl _)
  | case3 f st t _ hnone => rw [Array.getElem?_eq_getElem hst] at hnone; cases hnone
  | case4 f st t _ s hs e hf =>
    have fnd := ok.find hs c
    rw [hf] at fnd
    have hp : isPatPrefix pats (key st ++ [c]) = true := by
      rw [← fnd.2]; exact ok.isP _ fnd.1 (by rw [fnd.2]; simp)
    rw [lssD_self hp]
    exact ⟨rfl, by simp only [length_append, length_singleton]; omega, fnd⟩
  | case5 f st t _ s hs hf ih =>
    have fnd := ok.find hs c
    rw [hf] at fnd
    cases hk : key st with
    | nil =>
      -- the root: its fallback is the sentinel, on which the loop stops
      have h0 : st = 0 := ok.inj st 0 hst ok.size_pos (by rw [hk, ok.key0])
      obtain ⟨f', rfl⟩ : ∃ f', f = f' + 1 := ⟨f - 1, by omega⟩
      subst h0
      rw [hk] at fnd
      rw [ok.fb0 s hs, seek, if_pos rfl, nil_append, lssD_cons, if_neg (by simpa using fnd), lssD_nil]
      exact ⟨rfl, Nat.le_refl _, rfl⟩
    | cons a tl =>
      have hst0 : st ≠ 0 := by
        intro h; subst h; rw [ok.key0] at hk; cases hk
      obtain ⟨b1, b2⟩ := ok.fb st s hs hst0
      rw [hk] at fnd hfuel
      rw [hk, tail_cons] at b2
      rw [cons_append, lssD_cons, if_neg (by simpa using fnd), lssD_snoc isPatPrefix_pre, ← b2]
      have hl := (lssD_suffix (isPatPrefix pats) tl).length_le
      rw [← b2] at hl
      simp only [length_cons] at hfuel ⊢
      obtain ⟨r1, r2, r3⟩ := ih b1 (by omega)
      exact ⟨r1, by omega, r3⟩

/-- `specDigitAt` over the first `i` characters only -/
def specUpTo (pats : List Pat) (prep : List Nat) (i q : Nat) : Nat :=
  (List.range i).foldl (fun m i' => max m (contrib pats prep i' q)) 0

theorem specUpTo_succ (pats : List Pat) (prep : List Nat) (i q : Nat) :
    specUpTo pats prep (i + 1) q = max (specUpTo pats prep i q) (contrib pats prep i q) := by
  simp [specUpTo, List.range_succ]

/-- the walk after the characters `pre` of the text `prep`.  `tk` is the potential of `seek_spec` summed over
    `pre`: each character pays for two iterations, the depth of the state holds what is not spent yet -/
structure WInv (pats : List Pat) (d : Dict) (key : Nat → List Nat) (n : Nat) (prep pre : List Nat) (w : Walk) : Prop where
  fault : w.fault = none
  st : w.state < d.size
  kst : key w.state = lssD (isPatPrefix pats) pre
  len : w.hyphens.length = n
  hy : ∀ q, q < n → w.hyphens.getD q 0 = specUpTo pats prep pre.length q
  tk : w.ticks + (key w.state).length ≤ 2 * pre.length

theorem walkStep_inv (ok : DictOK pats d key) (wf : WFPats pats) (n : Nat) (pre rest : List Nat) (ch : Nat)
    (w : Walk) (inv : WInv pats d key n (pre ++ ch :: rest) pre w) :
    WInv pats d key n (pre ++ ch :: rest) (pre ++ [ch]) (walkStep d n w pre.length ch) := by
  have hlen : (key w.state).length ≤ pre.length := by
    rw [inv.kst]; exact (lssD_suffix _ _).length_le
  have sk := seek_spec ok ch (max (pre.length + 3) (d.size + 2)) w.state w.ticks inv.st (by omega)
  have itk := inv.tk
  rw [inv.kst, ← lssD_snoc isPatPrefix_pre] at sk
  rw [inv.kst] at itk
  have hc : ∀ q, specUpTo pats (pre ++ ch :: rest) (pre ++ [ch]).length q =
      max (specUpTo pats (pre ++ ch :: rest) pre.length q)
        ((digitsOf pats (lssD (isPatPrefix pats) (pre ++ [ch]))).elim 0 (digitAt · pre.length q)) := by
    intro q
    rw [length_append, length_singleton, specUpTo_succ, contrib_eq, take_length_add_append, take_succ_cons, take_zero]
  have hy0 : digitsOf pats (lssD (isPatPrefix pats) (pre ++ [ch])) = none → ∀ q, q < n →
      w.hyphens.getD q 0 = specUpTo pats (pre ++ ch :: rest) (pre ++ [ch]).length q := by
    intro h q hq
    rw [hc, h, Option.elim_none, Nat.max_zero]
    exact inv.hy q hq
  unfold walkStep
  generalize seek d ch (max (pre.length + 3) (d.size + 2)) w.state w.ticks = r at sk
  obtain ⟨nx, tk, flt⟩ := r
  obtain ⟨rfl, htk, hnx⟩ := sk
  simp only at htk
  have htk' : ∀ j, key j = lssD (isPatPrefix pats) (pre ++ [ch]) → tk + (key j).length ≤ 2 * (pre ++ [ch]).length := by
    intro j hj
    rw [hj, length_append, length_singleton]; omega
  cases nx with
  | none =>
    simp only at hnx ⊢
    exact ⟨by rw [inv.fault]; rfl, ok.size_pos, by rw [ok.key0, hnx], inv.len, hy0 (by rw [hnx]; exact wf.digitsOf_nil),
      htk' 0 (by rw [ok.key0, hnx])⟩
  | some j =>
    obtain ⟨hj, hkj⟩ := hnx
    obtain ⟨s, hs⟩ : ∃ s, d[j]? = some s := ⟨_, Array.getElem?_eq_getElem hj⟩
    have hpat := ok.pat j s hs
    rw [hkj] at hpat
    simp only [hs]
    cases hdg : digitsOf pats (lssD (isPatPrefix pats) (pre ++ [ch])) with
    | none =>
      rw [hdg] at hpat
      simp only [hpat, Option.map_none]
      exact ⟨by rw [inv.fault]; rfl, hj, hkj, inv.len, hy0 hdg, htk' j hkj⟩
    | some ds =>
      rw [hdg] at hpat
      obtain ⟨a1, a2, a3⟩ := applyPat_spec w.hyphens n pre.length (stripZeros ds)
      simp only [hpat, Option.map_some, a1]
      refine ⟨by rw [inv.fault]; rfl, hj, hkj, a2.trans inv.len, fun q hq => ?_, htk' j hkj⟩
      rw [hc, hdg, Option.elim_some, a3 q hq (by rw [inv.len]; exact hq), digitAt_stripZeros, inv.hy q hq]

theorem walkFrom_inv (ok : DictOK pats d key) (wf : WFPats pats) (n : Nat) (rest pre : List Nat) (w : Walk)
    (inv : WInv pats d key n (pre ++ rest) pre w) :
    WInv pats d key n (pre ++ rest) (pre ++ rest) (walkFrom d n rest pre.length w) := by
  induction rest generalizing pre w with
  | nil => simpa [walkFrom] using inv
  | cons ch rest ih =>
    have h1 := walkStep_inv ok wf n pre rest ch w inv
    rw [append_cons] at h1
    have := ih (pre ++ [ch]) (walkStep d n w pre.length ch) h1
    simp only [walkFrom]
    simpa using this

theorem walk_inv (ok : DictOK pats d key) (wf : WFPats pats) (n : Nat) (u : List Nat) :
    WInv pats d key n u u (walkFrom d n u 0 ⟨List.replicate n 0, 0, 0, none⟩) := by
  have init : WInv pats d key n ([] ++ u) [] ⟨List.replicate n 0, 0, 0, none⟩ := by
    refine ⟨rfl, ok.size_pos, by rw [ok.key0, lssD_nil], length_replicate, fun q hq => ?_, by simp [ok.key0]⟩
    simp [specUpTo, hq]
  exact walkFrom_inv ok wf n u [] _ init

theorem walk_refines (ok : DictOK pats d key) (wf : WFPats pats) (lower : Nat → Nat) (w : List Nat) :
    (hyphenateWalk d lower w).fault = none ∧ (hyphenateWalk d lower w).hyphens = specDigits pats lower w := by
  have fin := walk_inv ok wf w.length (prepWord lower w)
  refine ⟨fin.fault, ext_getD _ _ w.length fin.len (by simp [specDigits]) fun q hq => ?_⟩
  rw [hyphenateWalk, fin.hy q hq, specDigits, getD_map_range, if_pos hq]
  rfl

end

end Lou.Hyph
