/-
  C03 — every translation, back-translation and hyphenation call terminates: the guarded pass loops of
  `Loop.lean`, for ANY rule selection and ANY actions that never move the position backwards (`Monotone`, step
  contract S2), whatever the table, the hidden state, the output capacity.

  `Monotone` is needed (`pingpong_unbounded`).  The code as found violated it for a look-back inside the replace
  brackets (F1: `noback pass2 @1 ?` + `noback pass2 [_1]@1 ?` on "ab" never returned); the repair refuses such
  matches, and the check evaluates S2 on every H2 tick record.

  `Loop.run` is the shape of the correct/passN loops and is tied to the code by the tick records only: no theorem
  instantiates it with `Pass.fwdLoop`/`backLoop`, for which `C06Pass` repeats the measure argument (`fwdStage_total`,
  `backStage_total`).
  Elsewhere: the main-pass loops of the modelled fragments (`FwdTerm`, `FwdCTerm`, `BackTerm`), the hyphenation
  walk (`C17.hyph_walk_bound`).  Tick-monitored only: the main-pass loops outside the fragments (back-off to the
  word start in compbrl/nocont handling), the emphasis resolver, `pattern.c`.  The backward main pass has no
  non-advance guard for zero-width `context` rules (F2, a known finding: the test suite itself marks it xfail).
-/
import LouModel.Loop

namespace Lou.C03
-- `iter` below is `Loop.iter`, ONE iteration of the guarded loop, and `Loop.run` its fuelled loop; `Lou.iter` of
-- `Lemmas/Iter.lean` (the fuelled main-pass loop, lemmas `iter_inv`, `iter_done` …) is another thing, not imported here
open Lou.Loop

/-- the measure: twice the remaining input, plus one while the guard is open -/
def mu {σ : Type} (n : Nat) (s : St σ) : Nat := 2 * (n - s.pos) + (if s.inc then 1 else 0)

/-- the position is at most the length of the input, or the loop has ended (the proofs below do not need it:
    `mu` truncates the subtraction) -/
def Inv {σ : Type} (n : Nat) (s : St σ) : Prop := s.pos ≤ n ∨ s.done = true

/-- the `let` of `iter`: the selected step, or the verbatim copy while the guard is closed -/
def stepAt {σ : Type} (sel : σ → Nat → Step × σ) (s : St σ) : Step × σ :=
  if s.inc then sel s.hid s.pos else (Step.copy, s.hid)

section
variable {σ : Type} {n : Nat} {sel : σ → Nat → Step × σ} {s : St σ} {h : σ}

theorem iter_of_done (hd : s.done = true) : iter n sel s = s := by
  unfold iter; simp [hd]

theorem iter_end (hd : s.done = false) (hp : ¬ s.pos < n) : iter n sel s = { s with done := true } := by
  unfold iter; simp [hd, hp]

theorem iter_copy (hd : s.done = false) (hp : s.pos < n) (hk : stepAt sel s = (.copy, h)) :
    iter n sel s = { pos := s.pos + 1, inc := true, ticks := s.ticks + 1, done := false, hid := h } := by
  unfold stepAt at hk; unfold iter; simp [hd, hp, hk]

theorem iter_rule {p : Nat} (hd : s.done = false) (hp : s.pos < n) (hk : stepAt sel s = (.rule p, h)) :
    iter n sel s = { pos := p, inc := decide (p ≠ s.pos), ticks := s.ticks + 1, done := false, hid := h } := by
  unfold stepAt at hk; unfold iter; simp [hd, hp, hk]

theorem iter_fail (hd : s.done = false) (hp : s.pos < n) (hk : stepAt sel s = (.fail, h)) :
    iter n sel s = { pos := s.pos, inc := true, ticks := s.ticks + 1, done := true, hid := h } := by
  unfold stepAt at hk; unfold iter; simp [hd, hp, hk]

theorem stepAt_rule (hm : Monotone sel) {p : Nat} (hk : stepAt sel s = (.rule p, h)) : s.inc = true ∧ s.pos ≤ p := by
  unfold stepAt at hk
  split at hk
  next hi => exact ⟨hi, hm s.hid s.pos p (by rw [hk])⟩
  · cases hk

end

theorem iter_mu {σ : Type} (n : Nat) (sel : σ → Nat → Step × σ) (hm : Monotone sel) (s : St σ)
    (hd : s.done = false) :
    if (iter n sel s).done then (iter n sel s).ticks ≤ s.ticks + mu n s
    else mu n (iter n sel s) < mu n s ∧ (iter n sel s).ticks = s.ticks + 1 := by
  by_cases hp : s.pos < n
  case neg => rw [iter_end hd hp]; simp
  obtain ⟨k, h, hk⟩ : ∃ k h, stepAt sel s = (k, h) := ⟨_, _, rfl⟩
  cases k with
  | copy => rw [iter_copy hd hp hk]; simp only [mu]; split <;> simp <;> omega
  | rule p =>
    -- the position advances, or it stays and the guard closes
    obtain ⟨hi, hge⟩ := stepAt_rule hm hk
    rw [iter_rule hd hp hk]; simp only [mu, hi]
    by_cases hpe : p = s.pos <;> simp [hpe] <;> omega
  | fail => rw [iter_fail hd hp hk]; simp only [mu, if_true]; omega

theorem run_of_done {σ : Type} (n : Nat) (sel : σ → Nat → Step × σ) :
    ∀ (fuel : Nat) (s : St σ), s.done = true → run n sel fuel s = s := by
  intro fuel
  induction fuel with
  | zero => intro s _; rfl
  | succ f ih => intro s h; rw [run, iter_of_done h]; exact ih s h

theorem run_add {σ : Type} (n : Nat) (sel : σ → Nat → Step × σ) (f k : Nat) :
    ∀ s : St σ, run n sel (f + k) s = run n sel k (run n sel f s) := by
  induction f with
  | zero => intro s; rw [Nat.zero_add]; rfl
  | succ f ih => intro s; rw [Nat.add_right_comm, run, run, ih]

theorem run_bound {σ : Type} (n : Nat) (sel : σ → Nat → Step × σ) (hm : Monotone sel) :
    ∀ (fuel : Nat) (s : St σ), mu n s < fuel →
      (run n sel fuel s).done = true ∧ (run n sel fuel s).ticks ≤ s.ticks + mu n s := by
  intro fuel
  induction fuel with
  | zero => intro s h; omega
  | succ f ih =>
    intro s h
    cases hd : s.done
    case true => rw [run_of_done n sel _ s hd]; exact ⟨hd, by omega⟩
    have := iter_mu n sel hm s hd
    rw [run]
    split at this
    next hnd => rw [run_of_done n sel f _ hnd]; exact ⟨hnd, this⟩
    next =>
      obtain ⟨h1, h2⟩ := ih (iter n sel s) (by omega)
      exact ⟨h1, by omega⟩

/-- two iterations per position at most (a rule that does not advance, then the copy its closed guard forces) and the
    one that sees the end: `2·n + 2` fuel is never used up -/
theorem pass_loop_bound {σ : Type} (n : Nat) (sel : σ → Nat → Step × σ) (hm : Monotone sel) (h0 : σ) :
    (run n sel (2 * n + 2) (init h0)).done = true ∧ (run n sel (2 * n + 2) (init h0)).ticks ≤ 2 * n + 1 := by
  have hmu : mu n (init h0) = 2 * n + 1 := by simp [mu, init]
  have h := run_bound n sel hm (2 * n + 2) (init h0) (by omega)
  exact ⟨h.1, by have : (init h0).ticks = 0 := rfl; omega⟩

theorem run_more_fuel {σ : Type} (n : Nat) (sel : σ → Nat → Step × σ) (hm : Monotone sel) (h0 : σ) (k : Nat) :
    run n sel (2 * n + 2 + k) (init h0) = run n sel (2 * n + 2) (init h0) := by
  rw [run_add, run_of_done n sel k _ (pass_loop_bound n sel hm h0).1]

/-- after a rule step that did not move the position the next iteration
    does not consult the rules at all — it copies one element (or the loop has ended) -/
theorem once_per_position {σ : Type} (n : Nat) (sel : σ → Nat → Step × σ) (s : St σ)
    (hd : s.done = false) (hp : s.pos < n) (hinc : s.inc = true) (p : Nat)
    (hk : (sel s.hid s.pos).1 = Step.rule p) (hsame : p = s.pos) :
    (iter n sel s).inc = false ∧ (iter n sel s).pos = s.pos ∧
    (iter n sel (iter n sel s)).pos = s.pos + 1 ∧ (iter n sel (iter n sel s)).inc = true := by
  subst hsame
  rw [iter_rule hd hp (h := (sel s.hid s.pos).2) (by rw [stepAt, if_pos hinc, ← hk])]
  rw [iter_copy (h := (sel s.hid s.pos).2) (by rfl) (by exact hp) (by simp [stepAt])]
  simp

/-- two rules that hand the position back and forth -/
def pingpong : Unit → Nat → Step × Unit := fun _ pos => (if pos = 0 then Step.rule 1 else Step.rule 0, ())

theorem pingpong_not_monotone : ¬ Monotone pingpong := by
  intro h; have := h () 1 0 (by simp [pingpong]); omega

theorem pingpong_state (k : Nat) :
    run 2 pingpong k (init ()) = { pos := k % 2, inc := true, ticks := k, done := false, hid := () } := by
  induction k with
  | zero => rfl
  | succ k ih =>
    have h2 : k % 2 < 2 := Nat.mod_lt _ (by omega)
    rw [run_add 2 pingpong k 1, ih, run, run,
      iter_rule (p := if k % 2 = 0 then 1 else 0) (h := ()) rfl h2 (by rw [stepAt, if_pos rfl, pingpong]; split <;> rfl)]
    simp only [St.mk.injEq, and_true, decide_eq_true_eq]
    split <;> omega

theorem pingpong_unbounded (k : Nat) :
    (run 2 pingpong k (init ())).done = false ∧ (run 2 pingpong k (init ())).ticks = k := by
  rw [pingpong_state]; exact ⟨rfl, rfl⟩

/-- non-vacuity: "copy everything" is monotone and takes exactly n ticks -/
example : Monotone (fun (_ : Unit) (_ : Nat) => (Step.copy, ())) := by
  intro h pos p hk; simp at hk
example : (run 3 (fun (_ : Unit) (_ : Nat) => (Step.copy, ())) 8 (init ())).ticks = 3 := by decide +kernel

end Lou.C03
