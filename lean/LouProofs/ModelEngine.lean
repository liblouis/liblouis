/-
  The Layer B engine models plugged into the Layer A driver: they satisfy the contract the driver theorems assume of an
  arbitrary engine, so C01, C02, C04 and C07(3) hold for the modelled `_lou_translate` / `_lou_backTranslate` without any
  hypothesis on the engines.
-/
import LouProofs.C01
import LouProofs.C04
import LouProofs.C07
import LouProofs.C06Pass
import LouProofs.FwdOK
import LouProofs.BackOK
import LouProofs.C02
import LouProofs.Lemmas.Engine
import LouProofs.FwdCOK
import LouProofs.BackCOK

namespace Lou.ModelEngine
open Lou Lou.Gen Lou.Drv Lou.Contract Lou.Engine

/-- E1–E5 of one pass (every map entry is a position, none is −1): what each Layer B engine delivers.  A conjunction in
    the order of `FwdOK.translate_contract`, `FwdCOK.translateC_contract` and `C06Pass.StageOK`, so that each of them
    proves it as it stands -/
def PassOK5 (pin : PassIn) (po : PassOut) : Prop :=
  po.out.length ≤ pin.maxlen ∧ po.map.length = po.out.length ∧ po.realInlen ≤ pin.chars.length ∧
  ∀ p ∈ po.map, 0 ≤ p ∧ p ≤ (pin.chars.length : Int)

theorem engine_ok {e : Engine} (h : ∀ ini hist pin, PassOK5 pin (e ini hist pin)) : EngineOKFwd e ∧ EngineNonNeg e := by
  refine ⟨fun ini hist pin => ?_, fun ini hist pin p hp => ?_⟩
  · obtain ⟨e1, e2, e3, rng⟩ := h ini hist pin
    exact ⟨e1, e2, e3, fun p hp => ⟨Int.le_trans (by decide) (rng p hp).1, (rng p hp).2⟩⟩
  · obtain ⟨-, -, -, rng⟩ := h ini hist pin
    exact (rng p hp).1

/-- the stages around the main pass are the same in all forward engines -/
theorem fwdStage_ok (t : Table) (pin : PassIn) :
    PassOK5 pin (match Pass.fwdStage t pin.passNo pin.chars pin.maxlen with
      | .done o => { out := o.out, map := o.map, realInlen := o.realInlen, cpos := pin.cpos, cstat := pin.cstat }
      | _ => { out := [], map := [], realInlen := 0, cpos := pin.cpos, cstat := pin.cstat }) := by
  have h := C06Pass.fwdStage_contract t pin.passNo pin.chars pin.maxlen
  split
  · rename_i o hs; rw [hs] at h; exact h
  · exact ⟨Nat.zero_le _, rfl, Nat.zero_le _, nofun⟩

theorem modelEngine_ok (t : Table) : EngineOKFwd (modelEngine t) ∧ EngineNonNeg (modelEngine t) :=
  engine_ok fun ini hist pin => by
    unfold modelEngine
    split
    · have h := FwdOK.translate_contract t ini.mode pin.chars pin.maxlen pin.cpos pin.cstat
      dsimp only [PassOK5] at h ⊢
      exact h
    · exact fwdStage_ok t pin

/-- C01 with the F0 engine plugged in -/
theorem model_driver_fwd_safe (caps : Caps) (ti : TableInfo) (t : Table) (a : Args)
    (hv : C01.ArgsValid a) (hc : C01.CapsOK caps a) :
    ∀ x ∈ fwdAccesses caps ti (modelEngine t) a, x.ok = true :=
  C01.driver_fwd_safe caps ti (modelEngine t) a (modelEngine_ok t).1 hv hc

/-- C04(a) with the F0 engine plugged in.  `inlen` from −1 as in `C04.fwd_lengths`; `0 ≤ inlen` is
    `C04.fwd_inlen_nonneg`, which takes E5 as well -/
theorem model_fwd_lengths (ti : TableInfo) (disp : Nat → Nat) (t : Table) (a : Args)
    (hret : (fwd (some ti) disp (modelEngine t) a).ret = 1) :
    -1 ≤ (fwd (some ti) disp (modelEngine t) a).inlen ∧
    (fwd (some ti) disp (modelEngine t) a).inlen ≤ a.inbuf.length ∧
    0 ≤ (fwd (some ti) disp (modelEngine t) a).outlen ∧
    (fwd (some ti) disp (modelEngine t) a).outlen ≤ a.outlen :=
  C04.fwd_lengths ti disp (modelEngine t) a (modelEngine_ok t).1 hret

theorem fwdRun_nonneg (ti : TableInfo) (e : Engine) (a : Args) (he : EngineOKFwd e) (hn : EngineNonNeg e) :
    ∀ p ∈ (fwdRun ti e a).posMapping, 0 ≤ p :=
  fun p hp => ((fwdRun_inv_lo ti e a he (Int.le_refl 0) hn).rng p hp).1

/-- C07(3) for the whole call, any engine with E1–E5: the invariant of the run discharges the hypotheses of
    `C07.fwd_roundtrip` -/
theorem fwd_roundtrip_of_ok (ti : TableInfo) (disp : Nat → Nat) (e : Engine) (he : EngineOKFwd e ∧ EngineNonNeg e) (a : Args)
    (h : (fwd (some ti) disp e a).ret = 1) (hpos : 0 < (fwd (some ti) disp e a).inlen)
    (k : Nat) (hk : k < (fwdRun ti e a).output.length) :
    PosMap.scan (fwd (some ti) disp e a).inlen (fwdRun ti e a).output.length (fwdRun ti e a).posMapping (fun _ => -1)
      (PosMap.clamp (fwd (some ti) disp e a).inlen
        (((fwdRun ti e a).posMapping.take (fwdRun ti e a).output.length).getD k 0)) ≤ k := by
  have hi := fwdRun_inv ti e a he.1
  have hnn := fwdRun_nonneg ti e a he.1 he.2
  have hlen : (fwdRun ti e a).output.length < (fwdRun ti e a).posMapping.length := by have := hi.len; omega
  have hk' : k < ((fwdRun ti e a).posMapping.take (fwdRun ti e a).output.length).length := by
    rw [List.length_take]; omega
  rw [List.getD_eq_getElem?_getD, List.getElem?_eq_getElem hk']
  exact C07.fwd_roundtrip disp a _ h hpos hlen (fun p hp => hnn p (List.mem_of_mem_take hp)) k hk

/-- C07(3) without a hypothesis on the engine: mapping an output cell to its input position and back never lands behind
    that cell -/
theorem model_fwd_roundtrip (ti : TableInfo) (disp : Nat → Nat) (t : Table) (a : Args)
    (h : (fwd (some ti) disp (modelEngine t) a).ret = 1) (hpos : 0 < (fwd (some ti) disp (modelEngine t) a).inlen)
    (k : Nat) (hk : k < (fwdRun ti (modelEngine t) a).output.length) :
    PosMap.scan (fwd (some ti) disp (modelEngine t) a).inlen (fwdRun ti (modelEngine t) a).output.length
      (fwdRun ti (modelEngine t) a).posMapping (fun _ => -1)
      (PosMap.clamp (fwd (some ti) disp (modelEngine t) a).inlen
        (((fwdRun ti (modelEngine t) a).posMapping.take (fwdRun ti (modelEngine t) a).output.length).getD k 0)) ≤ k :=
  fwd_roundtrip_of_ok ti disp (modelEngine t) (modelEngine_ok t) a h hpos k hk

/-- the stages around the main pass are the same in both backward engines -/
theorem backStage_ok (t : Table) (pin : PassIn) :
    C02.PassOKBack pin (match Pass.backStage t pin.passNo pin.chars pin.maxlen with
      | .done o => { out := o.out, map := o.map.take o.realInlen, realInlen := o.realInlen, cpos := pin.cpos, cstat := pin.cstat }
      | _ => { out := [], map := [], realInlen := 0, cpos := pin.cpos, cstat := pin.cstat }) := by
  have h := C06Pass.backStage_contract t pin.passNo pin.chars pin.maxlen
  split
  · rename_i o hs; rw [hs] at h; exact ⟨h.1, h.2.2⟩
  · exact ⟨Nat.zero_le _, Nat.zero_le _⟩

theorem modelEngineBack_ok (t : Table) : C02.EngineOKBack (modelEngineBack t) := by
  intro ini hist pin
  unfold modelEngineBack
  split
  · have h := BackOK.translate_contract t ini.mode pin.chars pin.maxlen pin.cpos
    exact ⟨h.1, h.2⟩
  · exact backStage_ok t pin

theorem model_driver_back_safe (caps : Caps) (srcCap : Int) (ti : TableInfo) (dotsFor : Nat → Nat) (t : Table) (a : Args)
    (hv : C01.ArgsValid a) (hsrc : ((cutAtNul a.inbuf).length : Int) + 4 ≤ srcCap) (hc : C01.CapsOK caps a) :
    ∀ x ∈ backAccesses caps srcCap ti dotsFor (modelEngineBack t) a, x.ok = true :=
  C02.driver_back_safe caps srcCap ti dotsFor (modelEngineBack t) a (modelEngineBack_ok t) hv hsrc hc

theorem model_back_lengths (ti : TableInfo) (dotsFor : Nat → Nat) (t : Table) (a : Args)
    (hret : (back (some ti) dotsFor (modelEngineBack t) a).ret = 1) :
    0 ≤ (back (some ti) dotsFor (modelEngineBack t) a).inlen ∧
    (back (some ti) dotsFor (modelEngineBack t) a).inlen ≤ a.inbuf.length ∧
    0 ≤ (back (some ti) dotsFor (modelEngineBack t) a).outlen ∧
    (back (some ti) dotsFor (modelEngineBack t) a).outlen ≤ a.outlen := by
  have h := C04.back_lengths ti dotsFor (modelEngineBack t) a (modelEngineBack_ok t) hret
  exact ⟨h.1, h.2.2.1, h.2.2.2.1, h.2.2.2.2⟩

theorem modelEngineC_ok (t : Table) : EngineOKFwd (Engine.modelEngineC t) ∧ EngineNonNeg (Engine.modelEngineC t) :=
  engine_ok fun ini hist pin => by
    unfold Engine.modelEngineC
    split
    · split
      · rename_i r hr
        exact FwdCOK.translateC_contract t ini.mode pin.chars pin.maxlen pin.cpos pin.cstat r hr
      · exact ⟨Nat.zero_le _, rfl, Nat.zero_le _, nofun⟩
    · exact fwdStage_ok t pin

theorem engineFor_ok (t : Table) : EngineOKFwd (Engine.engineFor t) ∧ EngineNonNeg (Engine.engineFor t) :=
  Engine.engineFor_elim (P := fun e => EngineOKFwd e ∧ EngineNonNeg e) t (modelEngineC_ok t) (modelEngine_ok t)

/-- C07(3) for the engine `callFwd` runs, so for every call the whole-call model covers -/
theorem whole_call_fwd_roundtrip (ti : TableInfo) (disp : Nat → Nat) (t : Table) (a : Args)
    (h : (fwd (some ti) disp (Engine.engineFor t) a).ret = 1) (hpos : 0 < (fwd (some ti) disp (Engine.engineFor t) a).inlen)
    (k : Nat) (hk : k < (fwdRun ti (Engine.engineFor t) a).output.length) :
    PosMap.scan (fwd (some ti) disp (Engine.engineFor t) a).inlen (fwdRun ti (Engine.engineFor t) a).output.length
      (fwdRun ti (Engine.engineFor t) a).posMapping (fun _ => -1)
      (PosMap.clamp (fwd (some ti) disp (Engine.engineFor t) a).inlen
        (((fwdRun ti (Engine.engineFor t) a).posMapping.take (fwdRun ti (Engine.engineFor t) a).output.length).getD k 0)) ≤ k :=
  fwd_roundtrip_of_ok ti disp (Engine.engineFor t) (engineFor_ok t) a h hpos k hk

/-- a call `callFwd` answers is the driver model run with the modelled engines.  `callFwd` is what the protocol operation
    MCALL evaluates and prints (`LouModel/EngineProto.lean`, by reading) and the whole-call differential compares with
    the code -/
theorem callFwd_eq (t : Table) (disp : Nat → Nat) (a : Args) (r : Result) (hs : List (PassIn × PassOut))
    (h : Engine.callFwd t disp a = .ok (r, hs)) :
    r = fwd (some (Engine.tableInfo t)) disp (Engine.engineFor t) a ∧ hs = (fwdRun (Engine.tableInfo t) (Engine.engineFor t) a).hist := by
  revert h
  -- every branch of `callFwd` but the last is an error, where `injection` closes the goal
  fun_cases Engine.callFwd t disp a <;> intro h <;> injection h
  rename_i h
  injection h with h1 h2
  exact ⟨h1.symm, h2.symm⟩

theorem modelEngineBackC_ok (t : Table) : C02.EngineOKBack (Engine.modelEngineBackC t) := by
  intro ini hist pin
  unfold Engine.modelEngineBackC
  split
  · split
    · rename_i r hr
      have h := BackCOK.translateC_contract t ini.mode pin.chars pin.maxlen pin.cpos r hr
      exact ⟨h.1, h.2⟩
    all_goals exact ⟨Nat.zero_le _, Nat.zero_le _⟩
  · exact backStage_ok t pin

theorem engineForBack_ok (t : Table) : C02.EngineOKBack (Engine.engineForBack t) :=
  Engine.engineForBack_elim t (modelEngineBackC_ok t) (modelEngineBack_ok t)

/-- a call `callBack` answers is the backward driver model run with the modelled engines -/
theorem callBack_eq_both (t : Table) (dotsFor : Nat → Nat) (a : Args) (r : Result) (hs : List (PassIn × PassOut))
    (h : Engine.callBack t dotsFor a = .ok (r, hs)) :
    r = back (some (Engine.tableInfo t)) dotsFor (Engine.engineForBack t) a ∧
    hs = (backRun (Engine.tableInfo t) dotsFor (Engine.engineForBack t) a).hist := by
  revert h
  fun_cases Engine.callBack t dotsFor a <;> intro h <;> injection h
  rename_i h
  injection h with h1 h2
  exact ⟨h1.symm, h2.symm⟩

theorem callBack_eq (t : Table) (dotsFor : Nat → Nat) (a : Args) (r : Result) (hs : List (PassIn × PassOut))
    (h : Engine.callBack t dotsFor a = .ok (r, hs)) :
    r = back (some (Engine.tableInfo t)) dotsFor (Engine.engineForBack t) a :=
  (callBack_eq_both t dotsFor a r hs h).1

theorem callBack_eq_hist (t : Table) (dotsFor : Nat → Nat) (a : Args) (r : Result) (hs : List (PassIn × PassOut))
    (h : Engine.callBack t dotsFor a = .ok (r, hs)) :
    hs = (backRun (Engine.tableInfo t) dotsFor (Engine.engineForBack t) a).hist :=
  (callBack_eq_both t dotsFor a r hs h).2

/-- every result the backward whole-call model prints has its lengths within what the caller passed -/
theorem whole_call_back_lengths (t : Table) (dotsFor : Nat → Nat) (a : Args) (r : Result) (hs : List (PassIn × PassOut))
    (h : Engine.callBack t dotsFor a = .ok (r, hs)) (hret : r.ret = 1) :
    0 ≤ r.inlen ∧ r.inlen ≤ a.inbuf.length ∧ 0 ≤ r.outlen ∧ r.outlen ≤ a.outlen := by
  obtain rfl := callBack_eq t dotsFor a r hs h
  have h' := C04.back_lengths (Engine.tableInfo t) dotsFor (Engine.engineForBack t) a (engineForBack_ok t) hret
  exact ⟨h'.1, h'.2.2.1, h'.2.2.2.1, h'.2.2.2.2⟩

/-- every result the whole-call model prints has its lengths within what the caller passed; `inlen` from −1, as in
    `C04.fwd_lengths` (clause (a) of C04 says `0 ≤ inlen`: that is `C04.fwd_inlen_nonneg`, not restated here) -/
theorem whole_call_fwd_lengths (t : Table) (disp : Nat → Nat) (a : Args) (r : Result) (hs : List (PassIn × PassOut))
    (h : Engine.callFwd t disp a = .ok (r, hs)) (hret : r.ret = 1) :
    -1 ≤ r.inlen ∧ r.inlen ≤ a.inbuf.length ∧ 0 ≤ r.outlen ∧ r.outlen ≤ a.outlen := by
  obtain ⟨rfl, -⟩ := callFwd_eq t disp a r hs h
  exact C04.fwd_lengths (Engine.tableInfo t) disp (Engine.engineFor t) a (engineFor_ok t).1 hret

/-- C01 for every call the whole-call model covers -/
theorem whole_call_fwd_safe (caps : Caps) (t : Table) (a : Args) (hv : C01.ArgsValid a) (hc : C01.CapsOK caps a) :
    ∀ x ∈ fwdAccesses caps (Engine.tableInfo t) (Engine.engineFor t) a, x.ok = true :=
  C01.driver_fwd_safe caps (Engine.tableInfo t) (Engine.engineFor t) a (engineFor_ok t).1 hv hc

/-- C02 for every call the backward whole-call model covers (B0 main pass with or without context rules, literal
    multipass stages) -/
theorem whole_call_back_safe (caps : Caps) (srcCap : Int) (dotsFor : Nat → Nat) (t : Table) (a : Args)
    (hv : C01.ArgsValid a) (hsrc : ((cutAtNul a.inbuf).length : Int) + 4 ≤ srcCap) (hc : C01.CapsOK caps a) :
    ∀ x ∈ backAccesses caps srcCap (Engine.tableInfo t) dotsFor (Engine.engineForBack t) a, x.ok = true :=
  C02.driver_back_safe caps srcCap (Engine.tableInfo t) dotsFor (Engine.engineForBack t) a (engineForBack_ok t) hv hsrc hc

end Lou.ModelEngine
