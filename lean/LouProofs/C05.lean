/-
  C05 — rule choice of the main pass: longest match, then table order.

  `select_refines`: on a well-formed table the first chain walk of `for_selectRule` (stage 0: the bucket of the next two
  characters) returns, among the forward multi-character rules of the table (`IsFwdMulti`), the BEST applicable one in
  the documented order — longest string first, rules other than `always` before `always`, then definition order — and
  nothing only when none of them applies.  The second walk (the chain of the character itself) is not covered.
  "Applicable" is the conjunction the code tests: the string fits, `validMatch`, the opcode condition.  Well-formedness
  (`FwdWF`) is what the compiler establishes: like the chain order (`chain_sorted`) it is read off the compile invariant
  `Lou.C12.CInvF`, so the theorem holds of every compiled table (`compile_select_refines`).

  With `context` rules in the chains (`ForwardCtx`, `BackwardCtx`) the walk returns the first candidate of the chain
  (`walkChainC_first`, one for each direction).
-/
import LouProofs.Lemmas.Forward
import LouProofs.Lemmas.Backward
import LouProofs.C12Compile

namespace Lou.C05
open Lou Lou.Gen Lou.Chain Lou.Compile

theorem walkChain_eq_find (t : Table) (mode : Nat) (dc : Bool) (input : List Nat) (pos before prevOp : Nat)
    (chain : List Nat) (hres : ∀ i ∈ chain, ∃ r, t.rule? i = some r) :
    Fwd.walkChain t mode dc input pos (input.length - pos) before prevOp false chain =
      ((chain.filterMap t.rule?).find? (applicable t mode dc input pos before prevOp)).map toSel := by
  rw [Fwd.walkChain_eq_find, ← find?_all_bind hres]
  rfl

/-- what `select_refines` wants of the forward buckets.  `foldFixed` (the first two characters of a rule are their own
    case-folded form) is forced by the code: rules are bucketed by the RAW hash but looked up by the FOLDED hash of the
    input, so a rule whose first two characters are not fold-fixed sits in a bucket the lookup never visits -/
structure FwdWF (t : Table) : Prop where
  res : ∀ b ∈ t.forB, ∀ i ∈ b.2, ∃ r, t.rule? i = some r ∧ r.idx = i
  sorted : ∀ b ∈ t.forB, (b.2.filterMap t.rule?).Pairwise le
  bucket : ∀ b ∈ t.forB, ∀ i ∈ b.2, ∀ r, t.rule? i = some r →
    2 ≤ r.chars.length ∧ rawHash (r.chars.getD 0 0) (r.chars.getD 1 0) = b.1
  keys : ∀ b₁ ∈ t.forB, ∀ b₂ ∈ t.forB, b₁.1 = b₂.1 → b₁ = b₂
  foldFixed : ∀ b ∈ t.forB, ∀ i ∈ b.2, ∀ r, t.rule? i = some r →
    Fwd.toLower t (t.getChar (r.chars.getD 0 0)) = r.chars.getD 0 0 ∧
    Fwd.toLower t (t.getChar (r.chars.getD 1 0)) = r.chars.getD 1 0

def IsFwdMulti (t : Table) (r : Rule) : Prop := ∃ b ∈ t.forB, r.idx ∈ b.2 ∧ t.rule? r.idx = some r

theorem go_spec (t : Table) (input : List Nat) (pos n : Nat) (hn : 2 ≤ n) (rc : List Nat) (k prevAttr : Nat)
    (h : Fwd.validMatch.go t input pos n k rc prevAttr = true) (j : Nat) (hj : j < rc.length) :
    Fwd.toLower t (t.getChar (Fwd.inAt input (k + j))) = Fwd.toLower t (t.getChar rc[j]) := by
  -- the cases of `validMatch.go.induct`: end of the rule; an end-of-segment mark (accepted for one-character rules
  -- only); characters that differ; a change of case inside a word; on to the next character
  fun_induction Fwd.validMatch.go t input pos n k rc prevAttr generalizing j
  case case1 => cases hj
  case case2 =>
    simp only [Bool.and_eq_true, beq_iff_eq] at h
    omega
  case case3 | case4 => cases h
  case case5 k _ _ _ _ _ _ _ _ hl _ ih =>
    cases j with
    | zero => simpa using hl
    | succ j =>
      simpa only [Nat.add_assoc, Nat.add_comm 1 j, List.getElem_cons_succ] using ih h j (Nat.lt_of_succ_lt_succ hj)

theorem validMatch_first_two (t : Table) (input : List Nat) (pos : Nat) (r : Rule)
    (h2 : 2 ≤ r.chars.length) (hv : Fwd.validMatch t input pos r = true) :
    Fwd.toLower t (t.getChar (Fwd.inAt input pos)) = Fwd.toLower t (t.getChar (r.chars.getD 0 0)) ∧
    Fwd.toLower t (t.getChar (Fwd.inAt input (pos + 1))) = Fwd.toLower t (t.getChar (r.chars.getD 1 0)) := by
  have hv := (Fwd.validMatch_go hv).2
  rw [← List.getElem_eq_getD (h := show 0 < r.chars.length by omega), ← List.getElem_eq_getD (h := show 1 < r.chars.length by omega)]
  exact ⟨go_spec t input pos r.chars.length h2 r.chars pos 0 hv 0 (by omega),
    go_spec t input pos r.chars.length h2 r.chars pos 0 hv 1 (by omega)⟩

theorem forBucket_res (t : Table) (h : FwdWF t) (k : Nat) :
    (∀ i ∈ t.forBucket k, ∃ r, t.rule? i = some r ∧ IsFwdMulti t r) ∧
    ((t.forBucket k).filterMap t.rule?).Pairwise le := by
  rcases t.forBucket_cases k with he | ⟨b, hb, -, he⟩ <;> rw [he]
  · simp
  · refine ⟨fun i hi => ?_, h.sorted b hb⟩
    obtain ⟨r, hr, hidx⟩ := h.res b hb i hi
    exact ⟨r, hr, b, hb, hidx ▸ hi, hidx ▸ hr⟩

/-- Stage 0 of `for_selectRule`, which the code enters with at least two characters left:
    if the walk selects `r`, then `r` is applicable and every applicable forward multi-character rule of the table is
    `r` itself or comes after `r` in the documented order; if it selects nothing, no such rule is applicable.
    `walked` stands for the walk in both clauses; a caller passes `_ rfl` (a `let` in the statement, as in
    `compile_select_refines`, has to be introduced before either clause can be used) -/
theorem select_refines (t : Table) (h : FwdWF t) (mode : Nat) (dc : Bool) (input : List Nat)
    (pos before prevOp : Nat) (walked : Option Fwd.Sel)
    (hwdef : walked = Fwd.walkChain t mode dc input pos (input.length - pos) before prevOp false
      (t.forBucket (Fwd.stringHashFolded t (Fwd.inAt input pos) (Fwd.inAt input (pos + 1))))) :
    (∀ s, walked = some s → ∃ r, s = toSel r ∧ IsFwdMulti t r ∧
        applicable t mode dc input pos before prevOp r = true ∧
        ∀ x, IsFwdMulti t x → applicable t mode dc input pos before prevOp x = true → x = r ∨ le r x) ∧
    (walked = none → ∀ x, IsFwdMulti t x → applicable t mode dc input pos before prevOp x = false) := by
  generalize hk : Fwd.stringHashFolded t (Fwd.inAt input pos) (Fwd.inAt input (pos + 1)) = k at hwdef
  obtain ⟨hres, hsorted⟩ := forBucket_res t h k
  have hw : walked = (((t.forBucket k).filterMap t.rule?).find? (applicable t mode dc input pos before prevOp)).map toSel := by
    rw [hwdef]; exact walkChain_eq_find t mode dc input pos before prevOp _ fun i hi => (hres i hi).imp fun _ h => h.1
  -- completeness: an applicable rule of the table lies in the bucket that is walked
  have hcomplete : ∀ x, IsFwdMulti t x → applicable t mode dc input pos before prevOp x = true →
      x ∈ (t.forBucket k).filterMap t.rule? := by
    intro x ⟨b, hb, hxi, hxr⟩ hax
    obtain ⟨hlen, hhash⟩ := h.bucket b hb x.idx hxi x hxr
    obtain ⟨hf0, hf1⟩ := h.foldFixed b hb x.idx hxi x hxr
    unfold applicable at hax
    simp only [Bool.and_eq_true, decide_eq_true_eq] at hax
    obtain ⟨m0, m1⟩ := validMatch_first_two t input pos x hlen hax.1.2
    have hkey : k = b.1 := by
      rw [← hk, ← hhash]
      unfold Fwd.stringHashFolded rawHash
      rw [m0, m1, hf0, hf1]
    rw [hkey, Table.forBucket_of_mem hb fun b' hb' hk' => h.keys b' hb' b hb hk']
    exact List.mem_filterMap.mpr ⟨x.idx, hxi, hxr⟩
  constructor
  · intro s hs
    rw [hw] at hs
    obtain ⟨r, hf, rfl⟩ := Option.map_eq_some_iff.mp hs
    obtain ⟨i, hi, hir⟩ := List.mem_filterMap.mp (List.mem_of_find?_eq_some hf)
    obtain ⟨r', hr', hbk⟩ := hres i hi
    cases hr'.symm.trans hir
    exact ⟨r, rfl, hbk, by simpa using List.find?_some hf,
      fun x hx hax => find_first_le _ _ hsorted r hf x (hcomplete x hx hax) hax⟩
  · intro hnone x hx
    rw [hw, Option.map_eq_none_iff] at hnone
    cases hax : applicable t mode dc input pos before prevOp x with
    | false => rfl
    | true => exact absurd hax (by simpa using List.find?_eq_none.mp hnone x (hcomplete x hx hax))

/-- `chainRes` and `sorted` are what `chain_sorted` states and `FwdWF` takes over from the compile invariant
    `Lou.C12.CInvF`; `idxLt` is a third clause of that invariant, which neither reads -/
structure CInv (t : Table) : Prop where
  idxLt : ∀ r ∈ t.rules, r.idx < t.ruleCounter
  chainRes : ∀ b ∈ t.forB, ∀ i ∈ b.2, ∃ r, t.rule? i = some r ∧ r.idx = i
  sorted : ∀ b ∈ t.forB, (b.2.filterMap t.rule?).Pairwise le

theorem cinv_of_invF {t : Table} (h : C12.CInvF t) : CInv t :=
  ⟨h.idxLt, fun b hb i hi => let ⟨r, a, e, _⟩ := (h.forB.chains b hb).members i hi; ⟨r, a, e⟩,
    fun b hb => (h.forB.chains b hb).ordered⟩

/-- For every list of entries that compiles, every forward rule chain of the
    compiled table is ordered longest first, `always` last among equals, definition order otherwise,
    and every index in a chain denotes a rule of the table -/
theorem chain_sorted (es : List Entry) (t : Table) (hc : compile es = some t) :
    ∀ b ∈ t.forB, (b.2.filterMap t.rule?).Pairwise le ∧ ∀ i ∈ b.2, ∃ r, t.rule? i = some r ∧ r.idx = i := by
  have h := cinv_of_invF (C12.compile_invF hc)
  exact fun b hb => ⟨h.sorted b hb, h.chainRes b hb⟩

/-- non-vacuity: a table with a bucket of three rules, two for the same string, an `always` among them -/
example : ∃ t, compile [
    { opcode := CTO_LowerCase, chars := [97], dots := [0x8001] },
    { opcode := CTO_LowerCase, chars := [98], dots := [0x8003] },
    { opcode := CTO_Always, chars := [97, 98], dots := [0x8005] },
    { opcode := CTO_BegWord, chars := [97, 98], dots := [0x8006] },
    { opcode := CTO_Always, chars := [97, 98, 97], dots := [0x8007] }] = some t ∧
    t.forBucket (rawHash 97 98) = [5, 4, 3] := by
  decide +kernel

end Lou.C05

namespace Lou.C05Link
open Lou Lou.Gen Lou.Compile Lou.C12 Lou.C05 Lou.Image

theorem fwdWF_of_invF {t : Table} (h : CInvF t) : FwdWF t := by
  -- the compile model of the fragment never sets a mode (no `base`, no capital modes), so case folding is the identity
  have mz : ∀ c ∈ t.chars, c.mode = 0 := fun c hc => (h.chars c hc).noMode
  refine ⟨(cinv_of_invF h).chainRes, (cinv_of_invF h).sorted, fun b hb i hi r hr => ?_,
    fun b1 hb1 b2 hb2 hk => Table.nodup_map_inj h.forB.keysNodup hb1 hb2 hk,
    fun b hb i hi r hr => ⟨Fwd.toLower_getChar _ mz _, Fwd.toLower_getChar _ mz _⟩⟩
  obtain ⟨r0, a, _, _, m⟩ := (h.forB.chains b hb).members i hi
  rw [hr] at a
  cases a
  exact m

/-- Every table the compile model produces satisfies the well-formedness `select_refines` needs, whether or not
    there are `context` entries: `fwdWF_of_invF` asks nothing of the entries, and `hop` is not used -/
theorem compile_fwdWF (es : List Entry) (t : Table) (hop : ∀ e ∈ es, e.opcode ≠ CTO_Context)
    (hc : compile es = some t) : FwdWF t :=
  fwdWF_of_invF (compile_invF hc)

/-- `select_refines` for every compiled table, without hypotheses on the table -/
theorem compile_select_refines (es : List Entry) (t : Table) (hop : ∀ e ∈ es, e.opcode ≠ CTO_Context)
    (hc : compile es = some t) (mode : Nat) (dc : Bool) (input : List Nat) (pos before prevOp : Nat) :
    let walked := Fwd.walkChain t mode dc input pos (input.length - pos) before prevOp false
      (t.forBucket (Fwd.stringHashFolded t (Fwd.inAt input pos) (Fwd.inAt input (pos + 1))))
    (∀ s, walked = some s → ∃ r, s = toSel r ∧ IsFwdMulti t r ∧
        applicable t mode dc input pos before prevOp r = true ∧
        ∀ x, IsFwdMulti t x → applicable t mode dc input pos before prevOp x = true → x = r ∨ Lou.Chain.le r x) ∧
    (walked = none → ∀ x, IsFwdMulti t x → applicable t mode dc input pos before prevOp x = false) :=
  select_refines t (compile_fwdWF es t hop hc) mode dc input pos before prevOp _ rfl

end Lou.C05Link

namespace Lou.C05Ctx
open Lou Lou.Gen Lou.Fwd Lou.FwdC

/-- The selected rule is the first candidate of the chain.  That this is the documented choice
    rests on the chain order (`C12.TableConsistent.fwdOrder`); no theorem combines the two -/
theorem walkChainC_first (t : Table) (mode : Nat) (dc : Bool) (input : List Nat) (pos length before prevOp : Nat)
    (single posInc : Bool) (vars : List Nat) :
    ∀ (chain : List Nat) (s : SelC), walkChainC t mode dc input pos length before prevOp single posInc vars chain = some s →
      ∃ pre i post r, chain = pre ++ i :: post ∧ t.rule? i = some r ∧ s.sel.rule = some r ∧
        candidate t mode dc input pos length before prevOp single posInc vars r = true ∧
        ∀ j ∈ pre, ∀ q, t.rule? j = some q → candidate t mode dc input pos length before prevOp single posInc vars q = false := by
  intro chain s h
  obtain ⟨pre, i, post, r, hch, hr, rfl, hc, hpre⟩ := walk_first walkChainC_eq_find h
  exact ⟨pre, i, post, r, hch, hr, rfl, hc, hpre⟩

end Lou.C05Ctx

namespace Lou.C05CtxB
open Lou Lou.Gen Lou.Back Lou.BackC

theorem walkChainC_first (t : Table) (mode : Nat) (ctx : Back.Ctx) (input : List Nat) (pos length before prevOp : Nat) (vars : List Nat) :
    ∀ (chain : List Nat) (s : SelC), walkChainC t mode ctx input pos length before prevOp vars chain = some s →
      ∃ pre i post r, chain = pre ++ i :: post ∧ t.rule? i = some r ∧ s.sel.rule = some r ∧
        candidate t mode ctx input pos length before prevOp vars r = true ∧
        ∀ j ∈ pre, ∀ q, t.rule? j = some q → candidate t mode ctx input pos length before prevOp vars q = false := by
  intro chain s h
  obtain ⟨pre, i, post, r, hch, hr, rfl, hc, hpre⟩ := walk_first walkChainC_eq_find h
  exact ⟨pre, i, post, r, hch, hr, rfl, hc, hpre⟩

end Lou.C05CtxB
