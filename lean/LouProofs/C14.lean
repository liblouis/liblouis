/-
  C14 — "Table cache and lou_free: compile once, isolate lists, release everything".

  Theorems about `Lou.Cache` (LouModel/Cache.lean), for ALL operation histories and ALL oracles
  (= all file systems / table contents).

  The property says "between two lou_free calls a list is compiled at most once".  Of the code this is
  FALSE in two ways, each proved on a model witness:
    (a) a FAILED compilation is not cached (getTable inserts only after compileTable returned 1),
        so a bad list is compiled again by every call that names it (`failed_compile_repeats`);
    (b) the translation table and the display table of one list live in two chains; a call that
        asks for one role only (lou_charToDots / lou_dotsToChar ask for the display table only,
        lou_getTypeformForEmphClass for the translation table only) compiles just that role, and a
        later translation call reads the same files again for the other role
        (`roles_compiled_separately`).
  What holds: per role, the number of SUCCESSFUL compilations of a list since the last lou_free is
  exactly 1 if the list is in that chain and 0 otherwise (`compile_once`); and in histories of the
  public calls that ask for both roles with one list (lou_getTable, lou_translate*,
  lou_backTranslate*, lou_hyphenate, lou_checkTable, lou_compileString) a list whose compilation
  succeeds has its files read by at most one compileTable call (`compile_once_public`).
  The other clauses hold as stated, of what the model has: table identities (no contents) and the modelled blocks.

  Move-to-front loses no entry and duplicates none: `lookup_perm`, in `Lemmas/Cache.lean`.
-/
import LouProofs.Lemmas.CacheInv

namespace Lou.Cache

/-- A lookup finds a table iff the chain has an entry whose name is exactly the
    name asked for (equal length and equal bytes — a proper prefix or extension never matches), and
    it hands back the table of the first such entry -/
theorem cache_lookup_eq (c : List Entry) (n : Name) (hwf : ChainWF c) (t : Nat) :
    (lookup c n).1.map (·.table) = some t ↔ (c.find? (fun e => e.bytes = n)).map (·.table) = some t := by
  rw [lookup_fst]
  have : c.find? (·.hit n) = c.find? (fun e => decide (e.bytes = n)) := by
    induction c with
    | nil => rfl
    | cons e es ih =>
      have he : e.hit n = decide (e.bytes = n) := by
        rw [Bool.eq_iff_iff, hit_iff e n (hwf e (by simp)), decide_eq_true_iff]
      rw [List.find?_cons, List.find?_cons, he, ih fun x hx => hwf x (by simp [hx])]
  rw [this]

/-- a name that is a proper prefix (or extension) of a cached name is NOT found -/
example : (lookup [newEntry 0 [97, 46, 99, 116, 98] 7] [97, 46, 99, 116]).1 = none ∧
          (lookup [newEntry 0 [97, 46, 99, 116] 7] [97, 46, 99, 116, 98]).1 = none ∧
          (lookup [newEntry 0 [97, 46, 99, 116, 98] 7] [97, 46, 99, 116, 98]).1.map (·.table) = some 7 := by decide +kernel

/-- `ChainWF` is needed: an entry whose stored length is shorter than its bytes answers to the prefix -/
example : let e : Entry := { id := 0, len := 1, bytes := [97, 98], table := 7, finalized := false }
    (lookup [e] [97]).1.map (·.table) = some 7 ∧ ([e].find? (fun e => e.bytes = [97])).map (·.table) = none := by
  decide +kernel

/-- For each role the number of successful compilations of list `n` since the last
    `lou_free` is 1 if `n` is in that chain and 0 otherwise — in particular never more than one -/
theorem compile_once (o : Oracle) (h : List Op) (n : Name) :
    epochCount (isTrCompiled n) (run o State.init h).1.log = b2n (cached (run o State.init h).1.core.tr n) ∧
    epochCount (isDispCompiled n) (run o State.init h).1.log = b2n (cached (run o State.init h).1.core.disp n) ∧
    epochCount (isTrCompiled n) (run o State.init h).1.log ≤ 1 ∧
    epochCount (isDispCompiled n) (run o State.init h).1.log ≤ 1 := by
  have := (run_inv o h).count n
  have le : ∀ b, b2n b ≤ 1 := fun b => by cases b <;> decide
  exact ⟨this.1, this.2, this.1 ▸ le _, this.2 ▸ le _⟩

/-- (a) a FAILED compilation is not cached: every call that names a bad list compiles it again -/
theorem failed_compile_repeats :
    let o : Oracle := { compiles := fun _ _ => false }
    let bad : Name := [98]
    epochCount (isCompileOf bad)
      (run o State.init [.get (some bad) (some bad) true, .get (some bad) (some bad) true,
                         .get (some bad) (some bad) true]).1.log = 3 := by decide +kernel

/-- in general: while every compilation of `n` as a translation list fails, `n` never enters the translation chain -/
theorem failed_never_cached (o : Oracle) (h : List Op) (n : Name) (hbad : ∀ d, o.compiles (some n) d = false) :
    cached (run o State.init h).1.core.tr n = false := by
  have hi := run_inv o h
  -- no logged compilation of `n` was successful, so the count that `compile_once` equates with `cached` is 0
  have := (hi.count n).1
  rw [epochCount_eq_zero fun ev hev => Bool.eq_false_iff.mpr fun hc => ?_] at this
  · simp_all [b2n]
  · obtain ⟨d, rfl⟩ := isTrCompiled_iff.mp hc
    exact absurd (hi.verdict hev) (by simp [hbad])

/-- (b) the two roles of one list are compiled separately when a call asks for one role only:
    `lou_charToDots(n)` then `lou_translate(n)` reads the files of `n` twice -/
theorem roles_compiled_separately :
    let o : Oracle := { compiles := fun _ _ => true }
    let n : Name := [97]
    (run o State.init [.get none (some n) false, .get (some n) (some n) true]).1.log =
      [.compile none (some n) true, .compile (some n) none true] := by decide +kernel

/-- In a history of the public calls that ask for both tables with one list (`Op.isPublic`:
    the head of the file names them; the one-role calls of (b) there are public API too and are NOT among them;
    scratch requests and `lou_free` may come anywhere), a list `n` whose compilation
    succeeds has its files read by at most ONE compileTable call since the last `lou_free` (exactly one if it
    is cached, none otherwise) -/
theorem compile_once_public (o : Oracle) (h : List Op) (hp : ∀ op ∈ h, op.isPublic = true) (n : Name)
    (hok : o.compiles (some n) (some n) = true) :
    epochCount (isCompileOf n) (run o State.init h).1.log = b2n (cached (run o State.init h).1.core.tr n) ∧
    epochCount (isCompileOf n) (run o State.init h).1.log ≤ 1 := by
  obtain ⟨hi, hd⟩ := run_induction (P := fun s => Inv o s ∧ ∀ ev ∈ s.log, Diag ev) h
    (fun s op hop hs => ⟨step_inv o s op hs.1, step_diag o s op (hp op hop) hs.1 hs.2⟩) ⟨init_inv o, nofun⟩
  have hc := compile_once o h n
  -- on this log reading the files of `n` and compiling `n` successfully for the translation role are the same
  rw [epochCount_congr (isCompileOf n) (isTrCompiled n) _ fun ev hev => ?_]
  · exact ⟨hc.1, hc.2.2.1⟩
  · cases ev with
    | compile t d ok =>
      obtain ⟨rfl, hs⟩ := hd _ hev
      obtain ⟨m, rfl⟩ := Option.isSome_iff_exists.mp hs
      obtain rfl := hi.verdict hev
      by_cases hm : m = n
      · subst hm; simp [isCompileOf, isTrCompiled, hok]
      · cases o.compiles (some m) (some m) <;> simp [isCompileOf, isTrCompiled, hm]
    | _ => rfl

/-- what `getTable` hands back for a cached list is the cached table; nothing is compiled for that role -/
theorem getTable_tr_cached (o : Oracle) (c : Core) (trL dispL : Option Name) (n : Name) (t : Nat)
    (hn : norm trL = some n) (h : tableOf c.tr n = some t) :
    (getTable o c trL dispL).res.tr = some t ∧ tableOf (getTable o c trL dispL).core.tr n = some t ∧
    ∀ ev ∈ (getTable o c trL dispL).events, isTrCompiled n ev = false ∧ ∀ d ok, ev ≠ .compile (some n) d ok := by
  rw [getTable_eq]
  have hw : (norm trL).filter (!cached c.tr ·) = none := by simp [hn, Option.filter, cached_eq_tableOf, h]
  rw [hw, tableOf_look_push]
  refine ⟨by simpa [hn, look, lookup_fst, tableOf] using h, by simpa using h, fun ev hev => ?_⟩
  simp_all [isTrCompiled]

/-- In any reachable state an operation other than `lou_free` (`Op.avoids n .free` is `false`:
    it names no list and drops them all) that does not name the list `n` (whatever else it names: a prefix of `n`,
    an extension of `n`, a list sharing files with `n`, a list that fails to compile, and whatever the operation is:
    load, translate, add a rule that makes the table grow and move) leaves the table handed out for `n` unchanged,
    in both chains -/
theorem cache_isolation (o : Oracle) (h : List Op) (op : Op) (n : Name) (ha : op.avoids n = true) :
    let s := (run o State.init h).1
    tableOf (step o s op).1.core.tr n = tableOf s.core.tr n ∧
    tableOf (step o s op).1.core.disp n = tableOf s.core.disp n := by
  intro s
  have hc : CoreOK s.core := (run_inv o h).chains
  cases op with
  | pool b => rw [(step_pool o s b).2.1]; exact ⟨rfl, rfl⟩
  | free => simp [Op.avoids] at ha
  | _ => exact stepCore_isolation o s.core _ n hc ha

/-- In any reachable state two different list names never share a table —
    also when one name is a prefix of the other or both name the same files -/
theorem tables_distinct (o : Oracle) (h : List Op) (n m : Name) (t : Nat) :
    let s := (run o State.init h).1
    (tableOf s.core.tr n = some t → tableOf s.core.tr m = some t → n = m) ∧
    (tableOf s.core.disp n = some t → tableOf s.core.disp m = some t → n = m) :=
  ⟨tableOf_inj (run_inv o h).chains.tr.distinct, tableOf_inj (run_inv o h).chains.disp.distinct⟩

/-- a rule added with `lou_compileString(m, …)` goes into the table that `m` names afterwards, and so, in a reachable
    state (`tables_distinct`), into no table that another name can reach -/
theorem added_targets_own_table (o : Oracle) (c : Core) (m : Name) (ok grow : Bool) (t : Nat) (b : Bool)
    (hev : Event.added t b ∈ (compileString o c m ok grow).events) :
    tableOf (compileString o c m ok grow).core.tr m = some t := by
  obtain ⟨evs, he, hadd, _⟩ := compileString_cases o c m ok grow
  rw [he, getTable_eq, List.mem_append] at hev
  rcases hev with hev | hev
  · dsimp only at hev; split at hev <;> simp at hev
  · obtain ⟨t', b', h1, h2⟩ := hadd _ hev
    cases h1; exact h2

/-- Every block the modelled code ever malloc'ed is either freed exactly once or
    still reachable from a chain entry, a scratch pointer or a pool pointer — no leak, no double free,
    no dangling chain entry (also across table growth/realloc and move-to-front) -/
theorem ledger_consistent (o : Oracle) (h : List Op) (b : Block) :
    balance b (run o State.init h).1.ledger = b2i (live (run o State.init h).1 b) := by
  rw [(run_inv o h).ledger, occ_blocks (run_inv o h).chains]

/-- After `lou_free` nothing the library allocated is left, except the two never-freed
    pool headers (if a translation / back-translation ran), which stay reachable from their static pointer -/
theorem ledger_empty (o : Oracle) (h : List Op) (b : Block) :
    let s := (run o State.init h).1
    balance b (step o s .free).1.ledger = b2i ((b == .fwdPool && s.fwdPool) || (b == .bwdPool && s.bwdPool)) := by
  intro s
  have hi := step_inv o s .free (run_inv o h)
  rw [hi.ledger, occ_blocks hi.chains]
  simp only [live, step, liveC_init, Bool.false_or]

/-- After `lou_free` the library's state is the initial one, up to the two pool headers
    (ledger and log are ghost and go on) -/
theorem free_resets (o : Oracle) (s : State) :
    (step o s .free).1.core = State.init.core ∧ (step o s .free).1.fwdPool = s.fwdPool ∧
    (step o s .free).1.bwdPool = s.bwdPool := ⟨rfl, rfl, rfl⟩

/-- After `lou_free`, every further history of calls returns what it returns in
    a fresh process (same tables handed out or refused, same return values) and compiles exactly the
    same lists in the same order — whatever happened before the `lou_free` -/
theorem fresh_after_free (o : Oracle) (before after : List Op) :
    let s := (step o (run o State.init before).1 .free).1
    (run o s after).2 = (run o State.init after).2 ∧
    ∃ evs, (run o s after).1.log = s.log ++ evs ∧ (run o State.init after).1.log = evs := by
  intro s
  obtain ⟨h1, evs, h2, h3⟩ := run_core_only o after s State.init rfl
  exact ⟨h1, evs, h2, by simpa [State.init] using h3⟩

/-- non-vacuity and a worked example: lists `a`, `ab` (a is a prefix of ab), a bad list, a rule added
    to `a` that makes its table move, `lou_free`, reuse — table identities and compile events -/
example :
    let o : Oracle := { compiles := fun t d => t != some [98] && d != some [98] }
    let a : Name := [97]
    let ab : Name := [97, 98]
    let h : List Op := [.compileString a true true, .get (some a) (some a) true, .get (some ab) (some ab) true,
                        .get (some [98]) (some [98]) true, .get (some a) (some a) true, .pool false,
                        .scratch false .typebuf 0 10 20, .free, .get (some a) (some a) true]
    (run o State.init h).2.map (·.tr) = [some 4, some 4, some 5, none, some 4, none, none, none, some 0] ∧
    (run o State.init h).1.log = [.compile (some a) (some a) true, .added 4 true, .compile (some ab) (some ab) true,
        .compile (some [98]) (some [98]) false, .freed, .compile (some a) (some a) true] := by decide +kernel

end Lou.Cache
