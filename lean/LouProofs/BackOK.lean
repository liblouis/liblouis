/-
  The B0 model of the backward main pass (`Back.translate`) satisfies the clauses E1/E3 of the backward engine contract
  for every table, mode, input, capacity and cursor.  `emitPlain_spec` and `step_spec` say what an emission and an
  iteration do to position and output length; the contract and the progress of the loop (namespace `BackTerm`, at the
  end) are both read off them, and so is the contract of the model with context rules (BackCOK.lean).
-/
import LouProofs.Lemmas.Backward

namespace Lou.BackOK
open Lou Lou.Gen Lou.Back Lou.BackC

variable {t : Table} {mode : Nat} {input : List Nat} {max : Nat}

theorem selectRule_dotslen (t : Table) (mode : Nat) (ctx : Ctx) (input : List Nat) (pos before prevOp : Nat) :
    1 ≤ (selectRule t mode ctx input pos before prevOp).dotslen ∧
    (pos < input.length → pos + (selectRule t mode ctx input pos before prevOp).dotslen ≤ input.length) := by
  refine selectRule_elim (P := fun s => 1 ≤ s.dotslen ∧ (pos < input.length → pos + s.dotslen ≤ input.length))
    (fun s hs => ?_) (fun s hs => ?_) ⟨Nat.le_refl _, id⟩
  all_goals
    obtain ⟨i, -, r, -, rfl, hc⟩ := walk_some walkChain_eq_find hs
    simp only [Bool.and_eq_true, decide_eq_true_eq] at hc
    exact ⟨hc.1.1.2, fun _ => by show pos + r.dots.length ≤ _; omega⟩

theorem updatePositions_cap {oc : List Nat} {il pos : Nat} {o o' : Out}
    (h : updatePositions oc il pos input max o = some o') : o'.chars.length ≤ max ∧ pos + il ≤ input.length := by
  obtain ⟨_, _, e⟩ := updatePositions_eq oc il pos input max o
  rw [e] at h
  split at h
  · cases h
  · rename_i hc
    simp only [Bool.or_eq_true, decide_eq_true_eq, not_or, Nat.not_lt] at hc
    split at h
    · cases h
    · cases h; exact ⟨by simpa using hc.1, hc.2⟩

theorem undefinedDots_cap {d pos : Nat} {o o' : Out} (ho : o.chars.length ≤ max)
    (h : undefinedDots d mode pos max o = some o') : o'.chars.length ≤ max := by
  obtain ⟨w, hw, e⟩ := undefinedDots_eq d (hasBit mode mNoUndefined) max o.chars.length
  rw [e mode rfl pos o rfl] at h
  obtain ⟨b, hb, rfl⟩ := Option.map_eq_some_iff.mp h
  exact Nat.le_trans (Nat.le_of_eq List.length_append) (hw b hb ho)

theorem putCharacter_cap {d pos : Nat} {o o' : Out} (ho : o.chars.length ≤ max)
    (h : putCharacter t mode d pos input max o = some o') : o'.chars.length ≤ max := by
  rcases putCharacter_cases t d with ⟨oc, il, e⟩ | e <;> rw [e] at h
  · exact (updatePositions_cap h).1
  · exact undefinedDots_cap ho h

theorem each_spec {k p : Nat} {o : Out} {p' : Nat} {o' : Out} (h : step.each t mode input max k p o = some (p', o')) :
    p' = p + k ∧ (o.chars.length ≤ max → o'.chars.length ≤ max) := by
  -- the cases of `step.each.induct`: nothing left; the output is full; one more cell
  fun_induction step.each t mode input max k p o
  case case1 => cases h; exact ⟨rfl, id⟩
  case case2 => cases h
  case case3 h1 ih => exact ⟨by have := (ih h).1; omega, fun ho => (ih h).2 (putCharacter_cap ho h1)⟩

theorem emitPlain_spec {sel : Sel} {st : St} {p' : Nat} {o' : Out} (h : emitPlain t mode input max sel st = some (p', o')) :
    (1 ≤ sel.dotslen → st.pos < p') ∧ (st.pos < input.length → st.pos + sel.dotslen ≤ input.length → p' ≤ input.length) ∧
    (st.out.chars.length ≤ max → o'.chars.length ≤ max) := by
  rcases emitPlain_cases t input sel with e | e | ⟨oc, il, e⟩ | e <;> rw [e] at h
  · obtain ⟨o1, hu, he⟩ := Option.map_eq_some_iff.mp h
    cases he
    exact ⟨fun _ => Nat.lt_succ_self _, fun hp _ => hp, fun ho => undefinedDots_cap ho hu⟩
  · cases h
  · obtain ⟨o1, hu, he⟩ := Option.map_eq_some_iff.mp h
    cases he
    exact ⟨Nat.lt_add_of_pos_right, fun _ hd => hd, fun _ => (updatePositions_cap hu).1⟩
  · obtain ⟨rfl, hcap⟩ := each_spec h
    exact ⟨Nat.lt_add_of_pos_right, fun _ hd => hd, hcap⟩

def StInvB (n max : Nat) (st : St) : Prop := st.out.chars.length ≤ max ∧ st.pos ≤ n ∧ st.srcword ≤ n

theorem step_spec (t : Table) (mode : Nat) (input : List Nat) (max : Nat) (st : St) :
    (StInvB input.length max st → st.pos < input.length → StInvB input.length max (step t mode input max st).1) ∧
    ((step t mode input max st).2 = false → st.pos < (step t mode input max st).1.pos) := by
  rw [step_eq]
  dsimp only
  obtain ⟨hd1, hd2⟩ := selectRule_dotslen t mode (headCtx t st) input st.pos (beforeAttrs t st.out) st.prevOp
  generalize selectRule t mode (headCtx t st) input st.pos (beforeAttrs t st.out) st.prevOp = sel at hd1 hd2
  by_cases hns : (sel.opcode == CTO_NumberSign) = true
  · rw [if_pos hns]
    exact ⟨fun ⟨h1, _, h3⟩ hp => ⟨h1, hd2 hp, h3⟩, fun _ => Nat.lt_add_of_pos_right hd1⟩
  rw [if_neg hns]
  cases hem : emitPlain t mode input max sel _ with
  | none => exact ⟨fun h _ => h, nofun⟩
  | some x =>
    obtain ⟨hlt, hle, hcap⟩ := emitPlain_spec hem
    dsimp only
    rw [finishC_eq]
    exact ⟨fun ⟨h1, _, h3⟩ hp => ⟨hcap h1, hle hp (hd2 hp), by dsimp only; split; exact hle hp (hd2 hp); exact h3⟩,
      fun _ => hlt hd1⟩

theorem stepG_inv {st : St} (h : StInvB input.length max st) : StInvB input.length max (stepG t mode input max st).1 := by
  rcases Nat.lt_or_ge st.pos input.length with hp | hp
  · rw [stepG_of_lt hp]; exact (step_spec t mode input max st).1 h hp
  · rw [stepG_of_ge hp]; exact h

theorem stepG_mu {st : St} (h : (stepG t mode input max st).2 = false) :
    input.length - (stepG t mode input max st).1.pos < input.length - st.pos := by
  rcases Nat.lt_or_ge st.pos input.length with hp | hp
  · rw [stepG_of_lt hp] at h ⊢
    have := (step_spec t mode input max st).2 h
    omega
  · rw [stepG_of_ge hp] at h; cases h

theorem loop_inv (n : Nat) {st : St} (h : StInvB input.length max st) :
    StInvB input.length max (loop t mode input max n st) := by
  rw [loop_eq_iter]
  exact iter_inv (StInvB input.length max) (fun _ => stepG_inv) n st h

theorem stInvB_init (cpos : Int) : StInvB input.length max { out := { cpos := cpos, cstat := 0 } } :=
  ⟨Nat.zero_le _, Nat.zero_le _, Nat.zero_le _⟩

theorem epilogue_contract {st : St} (h : StInvB input.length max st) :
    (epilogue t input st).out.length ≤ max ∧ (epilogue t input st).realInlen ≤ input.length :=
  epilogue_bounds h.1 h.2.1 h.2.2

/-- output within the capacity (E1), consumed length within the input (E3) -/
theorem translate_contract (t : Table) (mode : Nat) (input : List Nat) (max : Nat) (cpos : Int) :
    (translate t mode input max cpos).out.length ≤ max ∧ (translate t mode input max cpos).realInlen ≤ input.length := by
  rw [translate_eq]
  exact epilogue_contract (loop_inv _ (stInvB_init cpos))

end Lou.BackOK

-- C03 for the B0 model: an iteration of `Back.step` that goes on consumes a cell, on EVERY table (a selected rule has
-- cells, `selectRule_dotslen`), so the `n + 1` fuel of `Back.translate` is never what stops it.
namespace Lou.BackTerm
open Lou Lou.Gen Lou.Back Lou.BackOK

theorem step_adv (t : Table) (mode : Nat) (input : List Nat) (max : Nat) (st : St)
    (h : (step t mode input max st).2 = false) : st.pos < (step t mode input max st).1.pos :=
  (step_spec t mode input max st).2 h

theorem loop_fuel_le (t : Table) (mode : Nat) (input : List Nat) (max : Nat) (st : St)
    (hinv : StInvB input.length max st) (a b : Nat) (ha : input.length - st.pos ≤ a) (hab : a ≤ b) :
    loop t mode input max b st = loop t mode input max a st := by
  rw [loop_eq_iter, loop_eq_iter]
  refine iter_fuel (StInvB input.length max) (fun s => input.length - s.pos) (fun _ => stepG_inv)
    (fun _ _ => stepG_mu) (fun s hs h => ?_) a st hinv ha b hab
  rw [stepG_of_ge (by omega)]

/-- C03 for the B0 main pass: `n - pos` iterations are enough, for every table, input, mode
    and capacity -/
theorem loop_fuel (t : Table) (mode : Nat) (input : List Nat) (max : Nat) :
    ∀ (fuel : Nat) (st : St), StInvB input.length max st → input.length - st.pos ≤ fuel →
      loop t mode input max (fuel + 1) st = loop t mode input max fuel st :=
  fun fuel st hinv h => loop_fuel_le t mode input max st hinv fuel (fuel + 1) h (Nat.le_succ _)

/-- more fuel than `translate` supplies changes nothing: stated on its loop, from its initial state -/
theorem translate_fuel (t : Table) (mode : Nat) (input : List Nat) (max : Nat) (cpos : Int) (k : Nat) :
    loop t mode input max (input.length + 1 + k) { out := { cpos := cpos, cstat := 0 } } =
    loop t mode input max (input.length + 1) { out := { cpos := cpos, cstat := 0 } } :=
  loop_fuel_le t mode input max _ (stInvB_init cpos) _ _ (by show input.length - 0 ≤ _; omega) (Nat.le_add_right _ _)

end Lou.BackTerm
