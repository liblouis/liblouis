/-
  The forward main pass with context rules (`FwdC.translateC`) satisfies the engine contract whenever it returns a
  result, for every table, mode, input, capacity and cursor and whatever the pass variables hold.  `stepC_spec` also says
  how an iteration that goes on lowers the measure `mu`: what `FwdCTerm` (in FwdTerm.lean) needs.
-/
import LouProofs.FwdOK
import LouProofs.Lemmas.Pass

namespace Lou.FwdCOK
open Lou Lou.Gen Lou.Fwd Lou.FwdC Lou.FwdOK Lou.Pass Lou.C06Pass

theorem copyChars_ok {t : Table} {mode : Nat} {input : List Nat} {max k : Nat} {frm to : Int} {o o' : Out} {b : Bool}
    (ho : OutOK input.length max o) (h : copyChars t mode input max k frm to o = (o', b)) :
    OutOK input.length max o' := by
  fun_induction copyChars t mode input max k frm to o
  case case3 hp ih => exact ih (putCharacter_grow ho hp).1 h
  all_goals cases h; exact ho

def ActCOK (n max : Nat) (m : Pass.Match) : ActC → Prop
  | .unsupported => True
  | .fail o' _ => OutOK n max o'
  | .ok o' np' _ => OutOK n max o' ∧ (np' = m.endReplace ∨ np' = m.endMatch)

theorem outOK_of_acc (n max : Nat) (o : Out) (a : Acc) (h : AccOK n max a) :
    OutOK n max { o with cells := a.out, map := a.map } := h

theorem moveOut_ok {n max : Nat} {o : Out} (ho : OutOK n max o) (dsm dsr : Nat) : OutOK n max (moveOut o dsm dsr) :=
  (memmove_ok n max _ dsm dsr (acc_of_outOK ho)).1

theorem actLoopC_ok (t : Table) (mode : Nat) (p input : List Nat) (m : Pass.Match) (max dsm : Nat) (sm : Int)
    (hm : MatchOK input.length sm m) (hsm : 0 ≤ sm)
    (fuel ic : Nat) (o : Out) (dsr : Nat) (np : Int) (vars : List Nat) :
      OutOK input.length max o → (np = m.endReplace ∨ np = m.endMatch) →
      ActCOK input.length max m (actLoopC t mode p input m max dsm fuel ic o dsr np vars) := by
  obtain ⟨-, hm1, hm2, hm3, -, -⟩ := hm
  -- the cases of `actLoopC.induct`: no fuel; end of the program; a literal (full, or appended); omit; copy (no room
  -- for the memmove, copy cut short, copy done); swap (no rule, done, cut short); a variable action (done, unknown)
  fun_induction actLoopC t mode p input m max dsm fuel ic o dsr np vars <;> intro ho hnp
  case case1 | case9 | case13 => trivial
  case case2 => exact ⟨ho, hnp⟩
  case case3 | case6 => exact ho
  case case4 hcap ih => exact ih ((acc_of_outOK ho).push (v := m.startReplace) (literal_cap hcap) (by omega)) hnp
  case case5 ih | case12 ih => exact ih ho hnp
  case case7 hmv _ hcp => exact copyChars_ok (moved_elim ho (moveOut_ok ho ..) hmv) hcp
  case case8 hmv _ hcp ih => exact ih (copyChars_ok (moved_elim ho (moveOut_ok ho ..) hmv) hcp) (.inr rfl)
  case case10 r _ _ _ _ ih =>
    exact ih (swapReplace_ok r input max (m.endReplace - m.startReplace).toNat m.startReplace _ (by omega) (by omega)
      (acc_of_outOK ho)).1 hnp
  case case11 r _ _ _ _ =>
    exact (swapReplace_ok r input max (m.endReplace - m.startReplace).toNat m.startReplace _ (by omega) (by omega)
      (acc_of_outOK ho)).1

theorem actionC_ok (t : Table) (mode : Nat) (p input : List Nat) (m : Pass.Match) (ic max : Nat) (o : Out) (vars : List Nat) (sm : Int)
    (hm : MatchOK input.length sm m) (hsm : 0 ≤ sm) (ho : OutOK input.length max o) :
    ActCOK input.length max m (actionC t mode p input m ic max o vars) := by
  unfold actionC
  split
  · next hcp => exact copyChars_ok ho hcp
  · next hcp => exact actLoopC_ok t mode p input m max _ sm hm hsm _ _ _ _ _ _ (copyChars_ok ho hcp) (Or.inl rfl)

theorem selectRuleC_ctx {t : Table} {mode : Nat} {dc : Bool} {input : List Nat} {pos before prevOp : Nat} {posInc : Bool}
    {vars : List Nat} {r : Rule} {m : Pass.Match} {ic : Nat}
    (h : (selectRuleC t mode dc input pos before prevOp posInc vars).ctx = some (r, m, ic)) :
    posInc = true ∧ MatchOK input.length pos m := by
  revert h
  refine selectRuleC_elim (P := fun s => s.ctx = some (r, m, ic) → _) (fun s hs h => ?_) (fun s hs h => ?_) nofun
  all_goals
    obtain ⟨i, -, r0, -, rfl, hc⟩ := walk_some walkChainC_eq_find hs
    obtain ⟨hop, ht⟩ := toSelC_ctx h
    exact ⟨C05Ctx.candidate_posInc hc hop, fwdTest_bounds _ _ _ _ _ _ _ ht⟩

theorem foundC_rule {t : Table} {mode : Nat} {dc : Bool} {input : List Nat} {pos before prevOp : Nat} {posInc : Bool}
    {vars : List Nat} {r : Rule} {m : Pass.Match} {ic : Nat}
    (h : foundC t (selectRuleC t mode dc input pos before prevOp posInc vars) posInc vars input pos = .rule r m ic) :
    posInc = true ∧ MatchOK input.length pos m := by
  unfold foundC at h
  split at h
  · rename_i hctx
    cases h
    exact selectRuleC_ctx hctx
  · split at h
    · rename_i hpi
      exact ⟨hpi, select_matchOK h⟩
    · cases h

/-- `FwdOK.StInv` without its clause on `lastOut`, which the contract does not need -/
structure StInvC (n max : Nat) (sc : StC) : Prop where
  out : OutOK n max sc.st.out
  pos : sc.st.pos ≤ n
  lastIn : sc.st.lastIn ≤ sc.st.pos

/-- the measure of the stage scanner (`C06Pass.mu`, 2·(n − pos) + [posIncremented]) serves the main pass too: a context
    rule may leave the position where it is, but then `posIncremented` is off and the next iteration cannot pick a
    context rule, so it consumes a character -/
def mu (n : Nat) (sc : StC) : Nat := C06Pass.mu n sc.st.pos sc.posInc

theorem newPos_bounds {n pos : Nat} {m : Pass.Match} {np : Int} (hm : MatchOK n pos m)
    (h : np = m.endReplace ∨ np = m.endMatch) : pos ≤ np.toNat ∧ np.toNat ≤ n := by
  have := hm.newPos h
  omega

/-- the shape of `FwdOK.step_spec`; here the measure falls only under the invariant (`mu` is blind beyond the end of the
    input) -/
theorem stepC_spec (t : Table) (mode : Nat) (input : List Nat) (max : Nat) (sc : StC) :
    (StInvC input.length max sc → StInvC input.length max (stepC t mode input max sc).1) ∧
    (StInvC input.length max sc → (stepC t mode input max sc).2 = false →
      1 ≤ (selectRuleC t mode sc.st.dontContract input sc.st.pos (beforeAttrs t input sc.st.pos) sc.st.prevOp sc.posInc
        sc.vars).sel.charslen →
      mu input.length (stepC t mode input max sc).1 < mu input.length sc) := by
  refine imp_and.mp fun ⟨i1, i2, i3⟩ => ?_
  have i4 := lastWord_lastIn t input sc.st i3
  rw [stepC_eq]
  dsimp only
  have hf := @foundC_rule t mode sc.st.dontContract input sc.st.pos (beforeAttrs t input sc.st.pos) sc.st.prevOp sc.posInc sc.vars
  generalize selectRuleC t mode sc.st.dontContract input sc.st.pos (beforeAttrs t input sc.st.pos) sc.st.prevOp sc.posInc
    sc.vars = s at hf ⊢
  by_cases he : sc.st.pos = input.length
  · rw [if_pos he]; exact ⟨⟨i1, i2, i4⟩, nofun⟩
  rw [if_neg he]
  by_cases hu : s.unsupported = true
  · rw [if_pos hu]; exact ⟨⟨i1, i2, i4⟩, nofun⟩
  rw [if_neg hu]
  cases hins : insertNumberSign t input sc.st.pos sc.st.prevOp (beforeAttrs t input sc.st.pos) max sc.st.out with
  | none => exact ⟨⟨i1, i2, i4⟩, nofun⟩
  | some o1 =>
    have hlt : sc.st.pos < input.length := Nat.lt_of_le_of_ne i2 he
    have g1 := insertNumberSign_grow i1 hins
    cases hfound : foundC t s sc.posInc sc.vars input sc.st.pos with
    | unsupported => exact ⟨⟨g1.1, i2, i4⟩, nofun⟩
    | rule r m ic =>
      dsimp only
      obtain ⟨hpi, hm⟩ := hf hfound
      have ha := actionC_ok t mode r.dots input m ic max o1 sc.vars sc.st.pos hm (Int.natCast_nonneg _) g1.1
      cases hact : actionC t mode r.dots input m ic max o1 sc.vars with
      | unsupported => exact ⟨⟨g1.1, i2, i4⟩, nofun⟩
      | fail o' _ => rw [hact] at ha; exact ⟨⟨ha, i2, i4⟩, nofun⟩
      | ok o' np vs =>
        rw [hact] at ha
        obtain ⟨hlo, hhi⟩ := newPos_bounds hm ha.2
        refine ⟨⟨ha.1, hhi, Nat.le_trans i4 hlo⟩, fun _ _ => ?_⟩
        show C06Pass.mu _ (np.toNat : Nat) (np.toNat != sc.st.pos) < C06Pass.mu _ _ sc.posInc
        rw [hpi]
        exact mu_rule (Int.natCast_nonneg _) (Int.ofNat_lt.2 hlt) (Int.ofNat_le.2 hlo) fun h => by simp [Int.ofNat_inj.1 h]
    | none =>
      dsimp only
      obtain ⟨e1, e2, e3, e4⟩ := emit_spec t mode input max s.sel sc.st.pos o1
      exact ⟨⟨(e4 g1.1).1, e3 hlt, Nat.le_trans i4 e1⟩, fun hd hs =>
        mu_advance _ _ (Int.natCast_nonneg _) (Int.ofNat_lt.2 hlt) (Int.ofNat_lt.2 (e2 (remember_snd_false hd) hs))⟩

theorem stInvC_init (cpos cstat : Int) {n max : Nat} : StInvC n max { st := { out := { cpos := cpos, cstat := cstat } } } :=
  ⟨⟨rfl, Nat.zero_le _, by simp⟩, Nat.zero_le _, Nat.zero_le _⟩

/-- a result of the forward main pass with context rules satisfies E1–E5 (`.unsupported` and
    `.fuel` carry no result and are outside the statement) -/
theorem translateC_contract (t : Table) (mode : Nat) (input : List Nat) (max : Nat) (cpos cstat : Int) (r : PassResult)
    (h : translateC t mode input max cpos cstat = .done r) :
    r.out.length ≤ max ∧ r.map.length = r.out.length ∧ r.realInlen ≤ input.length ∧
    ∀ x ∈ r.map, 0 ≤ x ∧ x ≤ (input.length : Int) := by
  have hinv := iter_inv (StInvC input.length max) (fun sc => (stepC_spec t mode input max sc).1)
    (2 * input.length + 2) _ (stInvC_init cpos cstat)
  rw [translateC_eq, loopC_eq_iter] at h
  revert h hinv
  rcases iter (stepC t mode input max) (2 * input.length + 2) _ with ⟨sc, fin⟩
  intro h ⟨ho, hp, hl⟩
  dsimp only at h
  repeat' split at h
  all_goals cases h
  exact epilogue_contract ho hp hl

end Lou.FwdCOK
