/-
  The constants the hand-written models use equal the values generated from the C headers
  (`LouModel/Gen/Consts.lean`): a changed header breaks these proofs.  No other Lean file refers to them: being checked on
  every build is their use.
-/
import LouModel.Basic
import LouModel.Alloc
import LouModel.Gen.Consts

namespace Lou.GenFacts
open Lou

theorem mode_bits : mNoContractions = Gen.noContractions ∧ mCompbrlAtCursor = Gen.compbrlAtCursor ∧
    mDotsIO = Gen.dotsIO ∧ mCompbrlLeftCursor = Gen.compbrlLeftCursor ∧ mUcBrl = Gen.ucBrl ∧
    mNoUndefined = Gen.noUndefined ∧ mPartialTrans = Gen.partialTrans := by decide +kernel

theorem dot_consts : LOU_DOTS = Gen.LOU_DOTS ∧ LOU_ROW_BRAILLE = Gen.LOU_ROW_BRAILLE ∧
    LOU_DOT_7 = Gen.LOU_DOT_7 ∧ LOU_DOT_8 = Gen.LOU_DOT_8 ∧ LOU_ENDSEGMENT = Gen.LOU_ENDSEGMENT := by decide +kernel

/-- the AllocBuf enum of internal.h, names and values.  `Alloc.Buf.ofNat?` lists the same eight names in this order by
    hand; no statement ties the two -/
theorem allocbuf_order : Gen.allocBufOrder.map (·.2) = [0, 1, 2, 3, 4, 5, 6, 7] ∧
    Gen.allocBufOrder.map (·.1) = ["alloc_typebuf", "alloc_wordBuffer", "alloc_emphasisBuffer", "alloc_destSpacing",
      "alloc_passbuf", "alloc_posMapping1", "alloc_posMapping2", "alloc_posMapping3"] := ⟨rfl, rfl⟩

theorem alloc_consts : Alloc.MAXPASSBUF = Gen.MAXPASSBUF := by decide +kernel

/-- the literal in the hypothesis `n ≤ 4` of `C06.backPassList_eq_rev` (which that proof does not use) -/
theorem maxpass : Gen.MAXPASS = 4 := by decide +kernel

/-- the opcode ranges the translator tests are what the models assume -/
theorem opcode_ranges :
    Gen.CTO_Space < Gen.CTO_UpLow ∧ Gen.CTO_Always ≤ Gen.CTO_None ∧ Gen.CTO_Digit ≤ Gen.CTO_LitDigit ∧
    Gen.CTO_Context < Gen.CTO_Correct ∧ Gen.CTO_Correct < Gen.CTO_Pass2 ∧ Gen.CTO_Pass2 + 1 = Gen.CTO_Pass3 ∧
    Gen.CTO_Pass3 + 1 = Gen.CTO_Pass4 := by decide +kernel

theorem opcode_values_nodup : (Gen.opcodeOrder.map (·.2)).Nodup := by
  -- an enum without explicit values: the opcodes are numbered 0, 1, 2, … in the order listed
  have h : Gen.opcodeOrder.map (·.2) = List.range Gen.opcodeOrder.length := by decide +kernel
  rw [h]; exact List.nodup_range

end Lou.GenFacts
