/-
  What the F0 forward main pass does not look at: the cursor and the spacing array (C10), and every bit
  of `mode` but three (C09).  Both are one statement about two runs.  An observer `e` of outputs (`Obs`) sees everything
  (`id`) or everything but the cursor (`er`); two runs under modes that agree on the three bits (`C09.ModeAgree`), from
  outputs that look the same to `e`, end in outputs that look the same to `e`.  For `er` that is blindness to the cursor,
  for `id` blindness to the rest of the mode.  The reason is the same: the only function that reads the cursor is
  `updatePositions`, which reads it to compute the cursor (`Fwd.updatePositions_eq`), and the mode is read through the
  three bits only; every other function of the pass is taken call by call.

  Names, here and in CurBlindC, CurBlindB: `er` forgets the cursor of an output (`erRes`, `erR`: of a pass result);
  `erS`, `erSC`, `erA` apply an observer to the output inside a main-pass state, a state of the pass with context
  rules, the result of an action, and `erV`, `erP` to the output inside what the emitting functions return.  `f_er` is
  the two-run statement for the model's function `f` (`putc` = `putCharacter`, `undef` = `undefinedDots`, `ins` =
  `insertNumberSign`, `each` = `emit.each`, `step.each`); `f_mode` says that `f` returns the same under the two modes.
  Where Lemmas/Forward has an equation whose hidden parts do not depend on the output, both runs are rewritten with it.
-/
import LouModel.Engine
import LouProofs.Lemmas.Forward
import LouProofs.C09
import LouProofs.C10

namespace Lou

/-- the observer on what an emitting function returns (position, output, rest); generic in the type of outputs, and in
    namespace `Lou`, because both directions use it -/
def erV {ω α : Type} (e : ω → ω) (x : Nat × ω × α) : Nat × ω × α := (x.1, e x.2.1, x.2.2)

theorem erV_mk {ω α : Type} {e : ω → ω} (p : Nat) (a : α) {o o' : ω} (h : e o = e o') : erV e (p, o, a) = erV e (p, o', a) :=
  congrArg (fun x => (p, x, a)) h

end Lou

namespace Lou.CurBlind
open Lou Lou.Gen Lou.Fwd Lou.C09

def er (o : Out) : Out := { o with cpos := 0, cstat := 0 }

@[simp] theorem er_cells (o : Out) : (er o).cells = o.cells := rfl
@[simp] theorem er_map (o : Out) : (er o).map = o.map := rfl
@[simp] theorem er_er (o : Out) : er (er o) = er o := rfl

theorem er_eq_iff {o o' : Out} : er o = er o' ↔ o.cells = o'.cells ∧ o.map = o'.map := by
  simp only [er, Out.mk.injEq, and_true]

/-- what the walk asks of an observer: outputs that look the same to it have the same cells and map, which is all the
    tests of the pass read (`body`), and still look the same after the same cells and map are written into both (`put`)
    and after `updatePositions`, the one function that reads the cursor (`up`) -/
structure Obs (e : Out → Out) : Prop where
  body : ∀ {o o'}, e o = e o' → o.cells = o'.cells ∧ o.map = o'.map
  put : ∀ {o o'} (c : List Nat) (m : List Int), e o = e o' → e { o with cells := c, map := m } = e { o' with cells := c, map := m }
  up : ∀ {o o'}, e o = e o' → ∀ oc il sh pos input max,
    (updatePositions oc il sh pos input max o).map e = (updatePositions oc il sh pos input max o').map e

theorem obs_id : Obs id where
  body := fun {o o'} (h : o = o') => h ▸ ⟨rfl, rfl⟩
  put := fun {o o'} _ _ (h : o = o') => h ▸ rfl
  up := fun {o o'} (h : o = o') _ _ _ _ _ _ => h ▸ rfl

theorem obs_er : Obs er where
  body := er_eq_iff.mp
  put _ _ _ := rfl
  up h oc il sh pos input max := by
    obtain ⟨hc, hm⟩ := er_eq_iff.mp h
    obtain ⟨_, _, e⟩ := updatePositions_eq oc il sh pos input max _
    obtain ⟨_, _, e'⟩ := updatePositions_eq oc il sh pos input max _
    rw [e, e', hc, hm]
    exact ite_rel (Option.map er · = Option.map er ·) (fun _ => rfl) fun _ => rfl

variable {e : Out → Out} {m m' : Nat}

def erS (e : Out → Out) (st : St) : St := { st with out := e st.out }

theorem erS_id (st : St) : erS id st = st := rfl

theorem erS_eq {st st' : St} (h : erS e st = erS e st') : st' = { st with out := st'.out } ∧ e st.out = e st'.out := by
  cases st; cases st'
  simp only [erS, St.mk.injEq] at h ⊢
  simp only [h, and_self]

/-- the two states give every field by a variable, they are not record updates, so that `sim_mk h ..` unifies with
    whatever updates an iteration has made; a new field of `St` is a new argument here -/
theorem sim_mk {x y : Out} (h : e x = e y) (p to po : Nat) (dc : Bool) (li lo : Nat) (ap : List (Option Rule)) (b : Bool) :
    StepSim (erS e)
      ({ pos := p, out := x, transOpcode := to, prevOp := po, dontContract := dc, lastIn := li, lastOut := lo, applied := ap }, b)
      ({ pos := p, out := y, transOpcode := to, prevOp := po, dontContract := dc, lastIn := li, lastOut := lo, applied := ap }, b) :=
  ⟨congrArg (fun z => ({ pos := p, out := z, transOpcode := to, prevOp := po, dontContract := dc, lastIn := li, lastOut := lo,
                         applied := ap } : St)) h, rfl⟩

theorem selectRule_mode (hm : ModeAgree m m') (t : Table) (dc : Bool) (input : List Nat) (pos before prevOp : Nat) :
    selectRule t m dc input pos before prevOp = selectRule t m' dc input pos before prevOp :=
  selectRule_congr fun _ _ => opcodeAccepts_congr hm.noContractions ..

/-- the emission reaches `remember` as a value, so the step needs nothing of observer or modes here -/
theorem remember_er (t : Table) (input : List Nat) (sel : Sel) (st : St) {o' : Out} {x y : Nat × Out × Bool}
    (h : erV e x = erV e y) :
    StepSim (erS e) (remember t input sel st x) (remember t input sel { st with out := o' } y) := by
  obtain ⟨dc, po, hr⟩ := remember_eq t input sel st
  obtain ⟨hp, ho, hb⟩ : x.1 = y.1 ∧ e x.2.1 = e y.2.1 ∧ x.2.2 = y.2.2 := by
    simpa only [erV, Prod.mk.injEq] using h
  rw [hr, hr, hp, hb]
  exact sim_mk ho ..

variable (he : Obs e) (hm : ModeAgree m m')
include he

theorem ins_er {o o' : Out} (h : e o = e o') (t : Table) (input : List Nat) (pos prevOp before max : Nat) :
    (insertNumberSign t input pos prevOp before max o).map e = (insertNumberSign t input pos prevOp before max o').map e := by
  rcases insertNumberSign_cases t input pos prevOp before with hn | ⟨ns, -, hn⟩
  · rw [hn, hn]
    exact congrArg some h
  · rw [hn, hn]
    exact he.up h ..

include hm

theorem putc_er {o o' : Out} (h : e o = e o') (t : Table) (c pos : Nat) (input : List Nat) (max : Nat) :
    (putCharacter t m c pos input max o).map e = (putCharacter t m' c pos input max o').map e := by
  obtain ⟨oc, il, hp⟩ := putCharacter_eq t c (hasBit m mNoUndefined)
  rw [hp m rfl, hp m' hm.noUndefined.symm]
  exact he.up h ..

theorem each_er (t : Table) (input : List Nat) (max : Nat) :
    ∀ (k p : Nat) {o o' : Out}, e o = e o' → erV e (emit.each t m input max k p o) = erV e (emit.each t m' input max k p o')
  | 0, p, _, _, h => erV_mk p true h
  | k + 1, p, o, o', h => by
    unfold emit.each
    rcases map_eq_cases (putc_er he hm h t (inAt input p) p input max) with ⟨h1, h2⟩ | ⟨x, y, h1, h2, hxy⟩
    · rw [h1, h2]; exact erV_mk p false h
    · rw [h1, h2]
      exact ite_rel (erV e · = erV e ·) (fun _ => erV_mk _ true hxy) fun _ => each_er t input max k (p + 1) hxy

theorem emit_er (t : Table) (input : List Nat) (max : Nat) (s : Sel) (pos : Nat) {o o' : Out} (h : e o = e o') :
    erV e (emit t m input max s pos o) = erV e (emit t m' input max s pos o') := by
  -- one write: refused, or the position moves on
  have put : ∀ {a b : Option Out} (p' : Nat), a.map e = b.map e →
      erV e (match a with | some o2 => (p', o2, true) | none => (pos, o, false)) =
      erV e (match b with | some o2 => (p', o2, true) | none => (pos, o', false)) := by
    intro a b p' hab
    rcases map_eq_cases hab with ⟨rfl, rfl⟩ | ⟨x, y, rfl, rfl, hxy⟩
    · exact erV_mk pos false h
    · exact erV_mk p' true hxy
  unfold emit
  refine ite_rel (erV e · = erV e ·) (fun _ => put _ (putc_er he hm h ..)) fun _ => ?_
  cases s.rule with
  | none => exact erV_mk pos false h
  | some r => exact ite_rel (erV e · = erV e ·) (fun _ => put _ (he.up h ..)) fun _ => each_er he hm t input max _ _ h

theorem step_er (t : Table) (input : List Nat) (max : Nat) {st st' : St} (h : erS e st = erS e st') :
    StepSim (erS e) (step t m input max st) (step t m' input max st') := by
  obtain ⟨hs, ho⟩ := erS_eq h
  rw [hs, step_eq, step_eq, FwdC.lastWord_congr_out t input st (he.body ho).1]
  dsimp only
  rw [← selectRule_mode hm]
  refine ite_rel (StepSim (erS e)) (fun _ => sim_mk ho ..) fun _ => ?_
  rcases map_eq_cases (ins_er he ho t input st.pos st.prevOp (beforeAttrs t input st.pos) max) with ⟨h1, h2⟩ | ⟨x, y, h1, h2, hxy⟩
  · rw [h1, h2]; exact sim_mk ho ..
  · rw [h1, h2]
    exact remember_er t input _ _ (emit_er he hm t input max _ _ hxy)

theorem loop_er (t : Table) (input : List Nat) (max : Nat) (fuel : Nat) {st st' : St} (h : erS e st = erS e st') :
    erS e (loop t m input max fuel st) = erS e (loop t m' input max fuel st') := by
  rw [loop_eq_iter, loop_eq_iter]
  exact (iter_stepSim (fun _ _ => step_er he hm t input max) fuel h).1

omit he hm

theorem translate_mode (hm : ModeAgree m m') (t : Table) (input : List Nat) (max : Nat) (cpos cstat : Int) :
    translate t m input max cpos cstat = translate t m' input max cpos cstat := by
  have h := loop_er obs_id hm t input max (input.length + 2) (st := { out := { cpos := cpos, cstat := cstat } }) rfl
  rw [erS_id, erS_id] at h
  rw [translate_eq, translate_eq, h]

def erRes (r : PassResult) : PassResult := { r with cpos := 0, cstat := 0 }

theorem erRes_eq {a b : PassResult} (h : erRes a = erRes b) : a.out = b.out ∧ a.map = b.map ∧ a.realInlen = b.realInlen := by
  simp only [erRes, PassResult.mk.injEq] at h
  exact ⟨h.1, h.2.1, h.2.2.1⟩

theorem epilogue_er (t : Table) (input : List Nat) {st st' : St} (h : erS er st = erS er st') :
    erRes (epilogue t input st) = erRes (epilogue t input st') := by
  obtain ⟨hs, ho⟩ := erS_eq h
  obtain ⟨hc, hm⟩ := er_eq_iff.mp ho
  obtain ⟨p, back, -, hr⟩ := epilogue_eq t input st
  rw [hs, hr, hr, hc, hm]
  rfl

/-- C10 for the F0 main pass: cells, position map and consumed length do not depend on the cursor -/
theorem translate_cursor_blind (t : Table) (mode : Nat) (input : List Nat) (max : Nat) (c1 s1 c2 s2 : Int) :
    (translate t mode input max c1 s1).out = (translate t mode input max c2 s2).out ∧
    (translate t mode input max c1 s1).map = (translate t mode input max c2 s2).map ∧
    (translate t mode input max c1 s1).realInlen = (translate t mode input max c2 s2).realInlen := by
  apply erRes_eq
  rw [translate_eq, translate_eq]
  exact epilogue_er t input (loop_er obs_er (.refl mode) t input max _ rfl)

open Lou.Drv Lou.Engine in
theorem modelEngine_blind (t : Table) : C10.SpacingBlind (modelEngine t) ∧ C10.CursorBlind (modelEngine t) := by
  refine ⟨fun _ _ _ _ => rfl, C10.cursorBlind_of_passIn fun ini _ _ n ch m c1 s1 c2 s2 => ?_⟩
  unfold modelEngine
  dsimp only
  split
  · obtain ⟨a, b, c⟩ := translate_cursor_blind t ini.mode ch m c1 s1 c2 s2
    simp only [C10.erOut, a, b, c]
  · split <;> rfl

open Lou.Drv Lou.Engine in
/-- C10 with the modelled engines, no blindness hypothesis left: passing NULL for spacing or for cursorPos does not
    change return value, lengths or output text -/
theorem model_optargs (tbl : Option TableInfo) (disp : Nat → Nat) (t : Table) (a : Args) (sp : Option (List Nat)) (c : Option Int) :
    C10.core (fwd tbl disp (modelEngine t) { a with spacing := sp }) = C10.core (fwd tbl disp (modelEngine t) { a with spacing := none }) ∧
    C10.core (fwd tbl disp (modelEngine t) { a with cursor := c }) = C10.core (fwd tbl disp (modelEngine t) { a with cursor := none }) :=
  ⟨C10.optargs_spacing tbl disp (modelEngine t) a (modelEngine_blind t).1 sp,
   C10.optargs_cursor tbl disp (modelEngine t) a (modelEngine_blind t).2 c⟩

end Lou.CurBlind
