/-
  C01/C02 (allocator part) — after ANY history of requests and `lou_free` calls,
  with or without the exact-size hook, `_lou_allocMem` hands out a live buffer
  that holds at least what the caller was promised plus the slack of 4 elements.
-/
import LouModel.Alloc

namespace Lou.Alloc

/-- pointer and remembered size agree -/
def SlotOK (s : Slot) : Prop :=
  match s.alloc with
  | none => s.size ≤ 0
  | some a => s.size + SLACK ≤ a

structure StateOK (s : State) : Prop where
  typebuf : SlotOK s.typebuf
  destSpacing : SlotOK s.destSpacing
  passbuf0 : SlotOK s.passbuf0
  passbuf1 : SlotOK s.passbuf1
  passbuf2 : SlotOK s.passbuf2
  pm1 : SlotOK s.pm1
  pm2 : SlotOK s.pm2
  pm3 : SlotOK s.pm3

theorem slotOK_none {s : Slot} (h : s.alloc = none) : SlotOK s ↔ s.size ≤ 0 := by
  unfold SlotOK; rw [h]

theorem slotOK_some {s : Slot} {a : Int} (h : s.alloc = some a) : SlotOK s ↔ s.size + SLACK ≤ a := by
  unfold SlotOK; rw [h]

theorem init_ok : StateOK {} := by
  constructor <;> exact (slotOK_none rfl).mpr (Int.le_refl 0)

theorem slot_forget_ok (s : Slot) (_h : SlotOK s) (h0 : ∀ a, s.alloc = some a → 0 ≤ a - SLACK) :
    SlotOK s.forget := by
  cases hs : s.alloc with
  | none => exact (slotOK_none (s := s.forget) hs).mpr (show (-1 : Int) ≤ 0 by decide)
  | some a => have := h0 a hs; exact (slotOK_some (s := s.forget) hs).mpr (show -1 + SLACK ≤ a by omega)

/-- a live buffer never has fewer than `SLACK` elements (every allocation is `want + 4`, want ≥ 0) -/
def SlotPos (s : Slot) : Prop := ∀ a, s.alloc = some a → SLACK ≤ a

/-- `hw` is a conjunction in the shape of `clampSize_ge`, which `request_capacity` passes as it stands -/
theorem slot_request (exact : Bool) (s : Slot) (want n : Int) (h : SlotOK s) (hp : SlotPos s)
    (hx : exact = true → s.size = -1) (hw : n ≤ want ∧ 0 ≤ want ∧ (exact = false → 0 < want)) :
    SlotOK (s.request want) ∧ SlotPos (s.request want) ∧
      ∃ a, (s.request want).alloc = some a ∧ n + SLACK ≤ a := by
  obtain ⟨hn, h0, hpos⟩ := hw
  unfold Slot.request
  split
  · refine ⟨(slotOK_some rfl).mpr (Int.le_refl _), ?_, want + SLACK, rfl, by omega⟩
    intro a ha; simp at ha; subst ha; simp [SLACK]; omega
  · refine ⟨h, hp, ?_⟩
    -- nothing is allocated, so `want ≤ size`; the pointer is not NULL because `want` is positive or (exact
    -- mode) the size has been forgotten
    have hlive : 0 < want ∨ s.size < 0 := by
      cases exact
      · exact .inl (hpos rfl)
      · exact .inr (by rw [hx rfl]; decide)
    cases hs : s.alloc with
    | none => have := (slotOK_none hs).mp h; omega
    | some a => have := (slotOK_some hs).mp h; exact ⟨a, rfl, by omega⟩

theorem clampSize_ge (exact : Bool) (x : Int) :
    x ≤ clampSize exact x ∧ 0 ≤ clampSize exact x ∧ (exact = false → 0 < clampSize exact x) := by
  unfold clampSize MINSIZE; cases exact <;> simp <;> omega

theorem imax_ge (a b : Int) : a ≤ imax a b ∧ b ≤ imax a b := by unfold imax; omega

theorem imax_le {a b c : Int} (ha : a ≤ c) (hb : b ≤ c) : imax a b ≤ c := by unfold imax; omega

structure StatePos (s : State) : Prop where
  typebuf : SlotPos s.typebuf
  destSpacing : SlotPos s.destSpacing
  passbuf0 : SlotPos s.passbuf0
  passbuf1 : SlotPos s.passbuf1
  passbuf2 : SlotPos s.passbuf2
  pm1 : SlotPos s.pm1
  pm2 : SlotPos s.pm2
  pm3 : SlotPos s.pm3

theorem init_pos : StatePos {} := by
  constructor <;> intro a h <;> simp at h

/-- `SlotPos` is what makes a live buffer large enough for the forgotten size −1 -/
theorem slot_forget_inv (s : Slot) (h : SlotOK s) (hp : SlotPos s) : SlotOK s.forget ∧ SlotPos s.forget :=
  ⟨slot_forget_ok s h fun a ha => by have := hp a ha; omega, hp⟩

theorem slot_forget_if (c : Prop) [Decidable c] (s : Slot) (h : SlotOK s) (hp : SlotPos s) :
    SlotOK (if c then s.forget else s) ∧ SlotPos (if c then s.forget else s) := by
  split
  · exact slot_forget_inv s h hp
  · exact ⟨h, hp⟩

theorem forget_inv (exact : Bool) (i : Nat) (s : State) (h : StateOK s) (hp : StatePos s) :
    StateOK (forget exact i s) ∧ StatePos (forget exact i s) := by
  cases exact with
  | false => exact ⟨h, hp⟩
  | true =>
    have t := slot_forget_inv _ h.typebuf hp.typebuf
    have d := slot_forget_inv _ h.destSpacing hp.destSpacing
    have p0 := slot_forget_if (i = 0) _ h.passbuf0 hp.passbuf0
    have p1 := slot_forget_if (i = 1) _ h.passbuf1 hp.passbuf1
    have p2 := slot_forget_if (i = 2) _ h.passbuf2 hp.passbuf2
    have m1 := slot_forget_inv _ h.pm1 hp.pm1
    have m2 := slot_forget_inv _ h.pm2 hp.pm2
    have m3 := slot_forget_inv _ h.pm3 hp.pm3
    exact ⟨⟨t.1, d.1, p0.1, p1.1, p2.1, m1.1, m2.1, m3.1⟩, ⟨t.2, d.2, p0.2, p1.2, p2.2, m1.2, m2.2, m3.2⟩⟩

theorem request_capacity (exact : Bool) (b : Buf) (i : Nat) (sm dm : Int) (s s' : State) (sl : Slot)
    (h : StateOK s) (hp : StatePos s) (hr : request exact b i sm dm s = some (s', sl)) :
    StateOK s' ∧ StatePos s' ∧ ∃ a, sl.alloc = some a ∧ need b sm dm + SLACK ≤ a := by
  obtain ⟨hf, hfp⟩ := forget_inv exact i s h hp
  have hcd := clampSize_ge exact dm
  -- what `slot_request` needs of the larger of the two clamped sizes, however it is written
  have hmax : ∀ w, clampSize exact sm ≤ w → clampSize exact dm ≤ w →
      imax sm dm ≤ w ∧ 0 ≤ w ∧ (exact = false → 0 < w) := fun w h1 h2 =>
    have := clampSize_ge exact sm
    ⟨imax_le (by omega) (by omega), by omega, fun he => by have := hcd.2.2 he; omega⟩
  have hm := imax_ge (clampSize exact sm) (clampSize exact dm)
  -- every remembered slot goes through `slot_request`; in exact mode `forget` has set its size to −1, by computation
  cases b with
  | wordBuffer | emphasisBuffer =>
    cases hr
    exact ⟨hf, hfp, _, rfl, Int.add_le_add_right (clampSize_ge exact sm).1 _⟩
  | typebuf =>
    cases hr
    obtain ⟨h1, h2, hl⟩ := slot_request exact _ _ _ hf.typebuf hfp.typebuf (by rintro rfl; rfl)
      (hmax (if clampSize exact sm > clampSize exact dm then clampSize exact sm else clampSize exact dm)
        (by omega) (by omega))
    exact ⟨{ hf with typebuf := h1 }, { hfp with typebuf := h2 }, hl⟩
  | destSpacing =>
    cases hr
    obtain ⟨h1, h2, hl⟩ := slot_request exact _ _ _ hf.destSpacing hfp.destSpacing (by rintro rfl; rfl) hcd
    exact ⟨{ hf with destSpacing := h1 }, { hfp with destSpacing := h2 }, hl⟩
  | passbuf =>
    match i, hr with
    | 0, hr =>
      cases hr
      obtain ⟨h1, h2, hl⟩ := slot_request exact _ _ _ hf.passbuf0 hfp.passbuf0 (by rintro rfl; rfl) hcd
      exact ⟨{ hf with passbuf0 := h1 }, { hfp with passbuf0 := h2 }, hl⟩
    | 1, hr =>
      cases hr
      obtain ⟨h1, h2, hl⟩ := slot_request exact _ _ _ hf.passbuf1 hfp.passbuf1 (by rintro rfl; rfl) hcd
      exact ⟨{ hf with passbuf1 := h1 }, { hfp with passbuf1 := h2 }, hl⟩
    | 2, hr =>
      cases hr
      obtain ⟨h1, h2, hl⟩ := slot_request exact _ _ _ hf.passbuf2 hfp.passbuf2 (by rintro rfl; rfl) hcd
      exact ⟨{ hf with passbuf2 := h1 }, { hfp with passbuf2 := h2 }, hl⟩
    | n + 3, hr => cases hr
  | posMapping1 =>
    cases hr
    obtain ⟨h1, h2, hl⟩ := slot_request exact _ _ _ hf.pm1 hfp.pm1 (by rintro rfl; rfl) (hmax _ hm.1 hm.2)
    exact ⟨{ hf with pm1 := h1 }, { hfp with pm1 := h2 }, hl⟩
  | posMapping2 =>
    cases hr
    obtain ⟨h1, h2, hl⟩ := slot_request exact _ _ _ hf.pm2 hfp.pm2 (by rintro rfl; rfl) (hmax _ hm.1 hm.2)
    exact ⟨{ hf with pm2 := h1 }, { hfp with pm2 := h2 }, hl⟩
  | posMapping3 =>
    cases hr
    obtain ⟨h1, h2, hl⟩ := slot_request exact _ _ _ hf.pm3 hfp.pm3 (by rintro rfl; rfl) (hmax _ hm.1 hm.2)
    exact ⟨{ hf with pm3 := h1 }, { hfp with pm3 := h2 }, hl⟩

theorem step_inv (op : Op) (s : State) (h : StateOK s) (hp : StatePos s) :
    StateOK (step s op).1 ∧ StatePos (step s op).1 := by
  cases op with
  | free => exact ⟨init_ok, init_pos⟩
  | req e b i sm dm =>
    simp only [step]
    cases hr : request e b i sm dm s with
    | none => exact ⟨h, hp⟩
    | some r => have := request_capacity e b i sm dm s r.1 r.2 h hp hr; exact ⟨this.1, this.2.1⟩

theorem run_inv (ops : List Op) : ∀ (s : State), StateOK s → StatePos s →
    StateOK (run s ops).1 ∧ StatePos (run s ops).1 := by
  induction ops with
  | nil => intro s h hp; exact ⟨h, hp⟩
  | cons op ops ih => intro s h hp; exact ih _ (step_inv op s h hp).1 (step_inv op s h hp).2

/-- whatever calls preceded (any sizes, any `lou_free`, exact mode on or off), a request
    that is answered gets a live buffer of at least `need + 4` elements (the one request not answered is a
    pass-buffer index ≥ 3, where the C code exits) -/
theorem alloc_capacity (hist : List Op) (exact : Bool) (b : Buf) (i : Nat) (sm dm : Int)
    (s' : State) (sl : Slot)
    (hr : request exact b i sm dm (run {} hist).1 = some (s', sl)) :
    ∃ a, sl.alloc = some a ∧ need b sm dm + SLACK ≤ a := by
  obtain ⟨h, hp⟩ := run_inv hist {} init_ok init_pos
  exact (request_capacity exact b i sm dm _ s' sl h hp hr).2.2

/-- hook H5 reports `size + 4`: a lower bound of what is behind the pointer -/
theorem reported_le_alloc (s : Slot) (h : SlotOK s) (a : Int) (ha : s.alloc = some a) : reported s ≤ a :=
  (slotOK_some ha).mp h

/-- non-vacuity: a history with growth, reuse, free and exact mode -/
example : (run {} [.req false .typebuf 0 3000 10, .req false .passbuf 1 0 5000, .free,
                   .req true .posMapping1 0 3 7]).2.map (fun o => o.map reported) =
          [some 3004, some 5004, none, some 11] := by decide +kernel

end Lou.Alloc
