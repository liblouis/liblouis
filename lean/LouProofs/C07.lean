/-
  C07 — position maps and cursor are valid, ordered and mutually consistent.

  The final stage of both drivers is a pure function of the composed `posMapping` and the two lengths.  The
  theorems are about `fwdFinish` / `backFinish` applied to an ARBITRARY driver state, i.e. to arbitrary integer
  arrays: they cover every table and opcode once the trace tie holds.

  Full statement of the property:
    (1) both lengths positive → every inputPos entry ∈ [0, inlen'), every outputPos entry ∈ [0, outlen')
    (2) the scanned map is non-decreasing
    (3) outputPos[inputPos[k]] ≤ k (forward), inputPos[outputPos[i]] ≤ i (backward)
    (4) arrays supplied ∧ cursor within the consumed input → cursor' = outputPos[cursor]
    (5) one-to-one tables: both maps are the identity (Layer B, C11.lean)
  The scan half of (1) and (3) are false for arrays with −1 before the first non-negative entry (the two
  `example`s at the end), so they carry the hypothesis `NonNeg`.  Forward it follows from E5 of the engine contract
  (`ModelEngine.fwdRun_nonneg`), which is evaluated on every real trace; backward no theorem derives it for a run
  (`C02.PassOKBack` says nothing of map entries).  (4) is proved forward only.
-/
import LouProofs.Lemmas.Driver
import LouProofs.Lemmas.PosMap

namespace Lou.C07
open Lou Lou.Drv Lou.PosMap

def NonNeg (m : Nat) (pm : List Int) : Prop := ∀ p ∈ pm.take m, 0 ≤ p

/-- the scanned array as the two final stages write it out.  `hj` speaks of its length: that is what a caller knows of
    the `op` it has just identified with it -/
theorem scanList_mono (n : Int) (m : Nat) (pm : List Int) (a0 : Int → Int) (N : Nat) (hN : N ≤ n.toNat)
    (i j : Nat) (hij : i ≤ j) (hj : j < ((List.range N).map fun (i : Nat) => scan n m pm a0 (i : Int)).length) :
    ((List.range N).map fun (i : Nat) => scan n m pm a0 (i : Int))[i]'(by omega) ≤
    ((List.range N).map fun (i : Nat) => scan n m pm a0 (i : Int))[j] := by
  simp only [List.length_map, List.length_range] at hj
  simp only [List.getElem_map, List.getElem_range]
  exact scan_mono n m pm a0 (by omega) (by omega) (by omega)

theorem scanList_range (n : Int) (m : Nat) (pm : List Int) (a0 : Int → Int) (N : Nat) (hN : N ≤ n.toNat)
    (hnn : NonNeg m pm) (hm : 0 < m) (hle : m ≤ pm.length) :
    ∀ x ∈ (List.range N).map fun (i : Nat) => scan n m pm a0 (i : Int), 0 ≤ x ∧ x < m := by
  have hlen : (pm.take m).length = m := List.length_take_of_le hle
  have h0 : 0 < (pm.take m).length := by rw [hlen]; exact hm
  refine List.forall_mem_map.mpr fun i hi => ?_
  have := List.mem_range.mp hi
  have hlt := scan_lt n m pm a0 (i := i) (by omega) (by omega)
  rw [hlen] at hlt
  exact ⟨scan_nonneg n m pm a0 (by omega) (by omega) ⟨_, List.getElem_mem h0, hnn _ (List.getElem_mem h0)⟩, hlt⟩

theorem fwdFinish_ok (disp : Nat → Nat) (a : Args) (s : FwdState)
    (h : (fwdFinish disp a s).ret = 1) :
    let n : Int := s.posMapping.getD s.output.length 0
    (fwdFinish disp a s).inlen = n ∧
    (fwdFinish disp a s).outlen = s.output.length ∧
    (fwdFinish disp a s).inputPos =
      (if a.wantInputPos then some (clampArr n s.output.length s.posMapping) else none) ∧
    (fwdFinish disp a s).outputPos =
      (if a.wantOutputPos then
        some ((List.range n.toNat).map fun (i : Nat) => scan n s.output.length s.posMapping (fun _ => -1) (i : Int))
       else none) ∧
    (fwdFinish disp a s).cursor =
      (match a.cursor with
       | none => none
       | some c => if c != -1 then
            (if a.wantOutputPos then some (scan n s.output.length s.posMapping (fun _ => -1) c) else some s.cpos)
          else some c) := by
  obtain ⟨outbuf, e⟩ := fwdFinish_of_ret h
  rw [e]
  exact ⟨rfl, rfl, rfl, rfl, by unfold fwdOk; cases a.cursor <;> rfl⟩

/-- (1) forward, inputPos -/
theorem fwd_inputPos_range (disp : Nat → Nat) (a : Args) (s : FwdState)
    (h : (fwdFinish disp a s).ret = 1) (hpos : 0 < (fwdFinish disp a s).inlen)
    (ip : List Int) (hip : (fwdFinish disp a s).inputPos = some ip) :
    ∀ x ∈ ip, 0 ≤ x ∧ x < (fwdFinish disp a s).inlen := by
  obtain ⟨hinlen, -, hinputPos, -, -⟩ := fwdFinish_ok disp a s h
  rw [hinputPos, Option.ite_none_right_eq_some, Option.some.injEq] at hip
  rw [hinlen] at hpos ⊢
  rw [← hip.2]
  exact clampArr_range _ _ _ hpos

/-- (2) forward, for ANY `posMapping` -/
theorem fwd_outputPos_mono (disp : Nat → Nat) (a : Args) (s : FwdState)
    (h : (fwdFinish disp a s).ret = 1)
    (op : List Int) (hop : (fwdFinish disp a s).outputPos = some op)
    (i j : Nat) (hij : i ≤ j) (hj : j < op.length) :
    op[i]'(by omega) ≤ op[j] := by
  obtain ⟨-, -, -, houtputPos, -⟩ := fwdFinish_ok disp a s h
  rw [houtputPos, Option.ite_none_right_eq_some, Option.some.injEq] at hop
  obtain ⟨-, rfl⟩ := hop
  exact scanList_mono _ _ _ _ _ (by omega) i j hij hj

/-- (1) forward, outputPos -/
theorem fwd_outputPos_range (disp : Nat → Nat) (a : Args) (s : FwdState)
    (h : (fwdFinish disp a s).ret = 1) (hpos : 0 < (fwdFinish disp a s).outlen)
    (hwf : s.output.length < s.posMapping.length)
    (hnn : NonNeg s.output.length s.posMapping)
    (op : List Int) (hop : (fwdFinish disp a s).outputPos = some op) :
    ∀ x ∈ op, 0 ≤ x ∧ x < (fwdFinish disp a s).outlen := by
  obtain ⟨-, houtlen, -, houtputPos, -⟩ := fwdFinish_ok disp a s h
  rw [houtputPos, Option.ite_none_right_eq_some, Option.some.injEq] at hop
  obtain ⟨-, rfl⟩ := hop
  rw [houtlen] at hpos ⊢
  exact scanList_range _ _ _ _ _ (Nat.le_refl _) hnn (by omega) (by omega)

/-- (3) forward -/
theorem fwd_roundtrip (disp : Nat → Nat) (a : Args) (s : FwdState)
    (h : (fwdFinish disp a s).ret = 1) (hpos : 0 < (fwdFinish disp a s).inlen)
    (hwf : s.output.length < s.posMapping.length)
    (hnn : NonNeg s.output.length s.posMapping)
    (k : Nat) (hk : k < s.output.length) :
    let n := (fwdFinish disp a s).inlen
    scan n s.output.length s.posMapping (fun _ => -1) (clamp n ((s.posMapping.take s.output.length)[k]'(by
      rw [List.length_take]; omega))) ≤ k :=
  scan_clamp_le _ _ _ _ hpos k _ (hnn _ (List.getElem_mem _))

/-- (4) forward -/
theorem fwd_cursor_mapped (disp : Nat → Nat) (a : Args) (s : FwdState)
    (h : (fwdFinish disp a s).ret = 1) (c : Int) (hc : a.cursor = some c) (hw : a.wantOutputPos = true)
    (h0 : 0 ≤ c) (hlt : c < (fwdFinish disp a s).inlen)
    (op : List Int) (hop : (fwdFinish disp a s).outputPos = some op) :
    (fwdFinish disp a s).cursor = some (op.getD c.toNat (-1)) := by
  obtain ⟨hinlen, -, -, houtputPos, hcursor⟩ := fwdFinish_ok disp a s h
  generalize s.posMapping.getD s.output.length 0 = n at *
  rw [houtputPos, if_pos hw, Option.some.injEq] at hop
  have hne : (c != -1) = true := by simp; omega
  rw [hcursor, hc, ← hop]
  simp only [hne, hw, if_true]
  rw [List.getD_eq_getElem?_getD, List.getElem?_eq_getElem (by simp; omega)]
  simp only [Option.getD_some, List.getElem_map, List.getElem_range, Int.toNat_of_nonneg h0]

/-- backward the two loops swap roles: `outputPos` is clamped, `inputPos` scanned (over `-7777`: see `Drv.backOk`) -/
theorem backFinish_ok (a : Args) (s : BackState) (h : (backFinish a s).ret = 1) :
    (backFinish a s).inlen = s.inlen ∧
    (backFinish a s).outlen = s.output.length ∧
    (backFinish a s).outputPos =
      (if a.wantOutputPos then some (clampArr s.output.length s.inlen.toNat s.posMapping) else none) ∧
    (backFinish a s).inputPos =
      (if a.wantInputPos then
        some ((List.range s.output.length).map fun (i : Nat) =>
          scan s.output.length s.inlen.toNat s.posMapping (fun _ => -7777) (i : Int))
       else none) := by
  rw [backFinish_of_ret h]
  exact ⟨rfl, rfl, rfl, rfl⟩

theorem back_outputPos_range (a : Args) (s : BackState) (h : (backFinish a s).ret = 1)
    (hpos : 0 < (backFinish a s).outlen)
    (op : List Int) (hop : (backFinish a s).outputPos = some op) :
    ∀ x ∈ op, 0 ≤ x ∧ x < (backFinish a s).outlen := by
  obtain ⟨-, houtlen, houtputPos, -⟩ := backFinish_ok a s h
  rw [houtputPos, Option.ite_none_right_eq_some, Option.some.injEq] at hop
  rw [houtlen] at hpos ⊢
  rw [← hop.2]
  exact clampArr_range _ _ _ hpos

theorem back_inputPos_mono (a : Args) (s : BackState) (h : (backFinish a s).ret = 1)
    (ip : List Int) (hip : (backFinish a s).inputPos = some ip)
    (i j : Nat) (hij : i ≤ j) (hj : j < ip.length) :
    ip[i]'(by omega) ≤ ip[j] := by
  obtain ⟨-, -, -, hinputPos⟩ := backFinish_ok a s h
  rw [hinputPos, Option.ite_none_right_eq_some, Option.some.injEq] at hip
  obtain ⟨-, rfl⟩ := hip
  exact scanList_mono _ _ _ _ _ (by omega) i j hij hj

theorem back_inputPos_range (a : Args) (s : BackState) (h : (backFinish a s).ret = 1)
    (hpos : 0 < (backFinish a s).inlen)
    (hwf : s.inlen.toNat ≤ s.posMapping.length)
    (hnn : NonNeg s.inlen.toNat s.posMapping)
    (ip : List Int) (hip : (backFinish a s).inputPos = some ip) :
    ∀ x ∈ ip, 0 ≤ x ∧ x < (backFinish a s).inlen := by
  obtain ⟨hinlen, -, -, hinputPos⟩ := backFinish_ok a s h
  rw [hinputPos, Option.ite_none_right_eq_some, Option.some.injEq] at hip
  obtain ⟨-, rfl⟩ := hip
  rw [hinlen] at hpos ⊢
  rw [← Int.toNat_of_nonneg (Int.le_of_lt hpos)]
  exact scanList_range _ _ _ _ _ (by omega) hnn (by omega) hwf

theorem back_roundtrip (a : Args) (s : BackState) (_h : (backFinish a s).ret = 1)
    (hpos : 0 < s.output.length)
    (hnn : NonNeg s.inlen.toNat s.posMapping)
    (k : Nat) (hk : k < (s.posMapping.take s.inlen.toNat).length) :
    scan s.output.length s.inlen.toNat s.posMapping (fun _ => -7777)
      (clamp s.output.length ((s.posMapping.take s.inlen.toNat)[k])) ≤ k :=
  scan_clamp_le _ _ _ _ (by omega) k hk (hnn _ (List.getElem_mem hk))

/-- with an entry −1 in front, the tail fill writes −1 into outputPos -/
example : scan 1 1 [-1] (fun _ => -1) 0 = -1 := by decide +kernel
/-- … and the round trip can move forward: outputPos[inputPos[0]] = 1 > 0 -/
example : scan 1 2 [-1, 0] (fun _ => -1) (clamp 1 (-1)) = 1 := by decide +kernel

/-- `NonNeg` and `hwf` of (1) and (3) hold of a map with a repeated entry and a gap -/
example : NonNeg 3 [0, 0, 2, 3] ∧ (3 : Nat) < [0, 0, 2, 3].length := by
  refine ⟨?_, by decide⟩
  intro p hp; simp at hp; omega

end Lou.C07
