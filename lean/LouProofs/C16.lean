/-
  C16 — translation depends only on the sequence of table entries, not their packaging.

  Property text:
    "A comma-separated table list, a wrapper file that includes the same files in the same
     order, and a single file containing their concatenated entries are behaviourally identical
     in both directions.  So are the same entries written with LF or CRLF line ends, with extra
     blank or comment lines or trailing whitespace, and - for ASCII content - in UTF-8, UTF-16LE
     or UTF-16BE with byte-order mark.  Spelling a character as a \xhhhh escape instead of
     literally, or listing the dots of a cell in a different order, changes nothing either."

  Proved here, over ALL byte contents, about the reader model LouModel/Lexer.lean (a transcription of
  getAChar, _lou_getALine, getToken, parseChars, parseDots, hexValue that is compared function by function
  with the compiled C code on every run of tools/lv/props/C16.py): each re-packaging leaves the lines, the
  tokens, the characters or the cells that the rule compiler is handed the same.  `Q1` … `Q15` in the docstrings
  are the entries of the list of quirks in the header of that model file.  Four hypotheses come with a
  witness that refutes the statement without them: length ≠ 1 in `utf16_eq_ascii` (`one_byte_file_is_empty`),
  the final LF in `list_eq_concat` (`concat_without_lf_merges`), the length bound of `blank_comment_inert`
  (`long_comment_leaks`), `cp ≠ 92` in `escape_eq_literal` (`literal_backslash_is_error`); the length bound of
  `getToken_tokens` has its witness in `C13.getToken_guard_is_off_by_one`.  `AsciiStart` in the `_bytes`
  versions, `45 ∉ a` in `dots_perm` and `cp < 65536` in `escape_eq_literal` have none.

  The equivalence of the three PACKAGINGS of whole compilations (list / include wrapper / one file) needs
  compileRule with its `include` opcode, which is not modelled: of compileFile there is the line loop
  (`fileLinesLoop`); LouModel/CompileSkel.lean and LouModel/Resolve.lean have the control skeleton of
  compileTable and the name resolution of includeFile, and no theorem connects them with this reader.  At the
  level reached here it is `list_eq_concat` (same lines, hence same calls of compileRule with the same line
  texts; line numbers and file names — used in messages only — differ).  The rest is decided by the
  differential search of tools/lv/props/C16.py on the real compiler.
-/
import LouModel.Lexer
import LouProofs.Lemmas.Lexer
import LouProofs.Lemmas.LexTokens

namespace Lou.C16
open Lou.Lexer

/-- the reader is a function of the bytes: the lines that compileFile hands to compileRule are those of the
    decoded character stream -/
theorem fileLines_decode (bs : List Nat) : (fileLines bs).1 = splitLines (decode bs) [] := by
  unfold fileLines
  rw [(fileLinesLoop_spec _ bs {} [] wf_init (mu_lt_fuel bs {})).1, remaining_init, List.nil_append]

theorem readChars_decode (bs : List Nat) : (readChars bs).1 = decode bs := by
  unfold readChars
  rw [readCharsLoop_spec _ bs {} [] wf_init (mu_lt_fuel bs {}), remaining_init, List.nil_append]

theorem getALine_progress (bs : List Nat) (h : Hdr) (hw : h.wf) :
    match getALine bs h with
    | (ret, _, bs', h') =>
      h'.wf ∧ mu bs' h' ≤ mu bs h ∧ (ret = true → mu bs' h' < mu bs h) ∧ (ret = false → remaining bs' h' = []) := by
  generalize he : getALine bs h = r
  obtain ⟨ret, l, bs', h'⟩ := r
  obtain ⟨-, hr, hw', hle, hlt⟩ := getALine_spec hw he
  exact ⟨hw', hle, hlt, hr⟩

theorem line_count (bs : List Nat) : (fileLines bs).1.length ≤ bs.length := by
  have := (fileLinesLoop_spec _ bs {} [] wf_init (mu_lt_fuel bs {})).2
  rwa [mu_init, List.length_nil, Nat.zero_add] at this

theorem line_bound (bs : List Nat) : ∀ l ∈ (fileLines bs).1, l.length ≤ MAXSTRING - 1 := by
  rw [fileLines_decode]; exact splitLines_bound _ [] (by simp)

/-- Q4: CR is dropped wherever it stands -/
theorem cr_anywhere_inert (cs cur : List Nat) : splitLines cs cur = splitLines (cs.filter (· ≠ 13)) cur := by
  fun_induction splitLines cs cur with
  | case1 | case2 => simp [splitLines, *]
  | case3 _ _ ih => rw [List.filter_cons_of_neg (by simp)]; exact ih
  | case4 _ _ _ h13 hb ih => rw [List.filter_cons_of_pos (by simpa using h13), splitLines_break h13 hb, ih]
  | case5 _ _ _ h13 hb ih => rw [List.filter_cons_of_pos (by simpa using h13), splitLines_push h13 hb]; exact ih

def crlf (cs : List Nat) : List Nat := cs.flatMap (fun c => if c = 10 then [13, 10] else [c])

theorem crlf_filter (cs : List Nat) : (crlf cs).filter (· ≠ 13) = cs.filter (· ≠ 13) := by
  induction cs with
  | nil => rfl
  | cons c cs ih =>
    unfold crlf at ih ⊢
    rw [List.flatMap_cons, List.filter_append, ih]
    by_cases h10 : c = 10
    · subst h10; simp
    · rw [if_neg h10, ← List.filter_append]; rfl

theorem crlf_eq_lf (cs : List Nat) : splitLines (crlf cs) [] = splitLines cs [] := by
  rw [cr_anywhere_inert (crlf cs), crlf_filter, ← cr_anywhere_inert]

/-- the encoding test classifies the file as "ASCII 8": two bytes < 128 at its start.  A one-byte file reads as
    empty (`one_byte_file_is_empty`), one that starts with a non-ASCII UTF-8 character is rejected
    (`utf8_start_rejected`). -/
def AsciiStart : List Nat → Prop
  | b0 :: b1 :: _ => b0 < 128 ∧ b1 < 128
  | _ => False

theorem decode_asciiStart {bs : List Nat} (h : AsciiStart bs) : decode bs = bs := by
  match bs, h with
  | b0 :: b1 :: r, h =>
    obtain ⟨h0, h1⟩ := h
    simp only [decode]
    rw [if_neg (by omega), if_neg (by omega), if_pos ⟨h0, h1⟩]

theorem asciiStart_crlf {bs : List Nat} (h : AsciiStart bs) : AsciiStart (crlf bs) := by
  match bs, h with
  | b0 :: b1 :: r, h =>
    obtain ⟨h0, h1⟩ := h
    unfold crlf
    by_cases e0 : b0 = 10 <;> by_cases e1 : b1 = 10 <;> simp [e0, e1, AsciiStart] <;> omega

theorem fileLines_ascii {bs : List Nat} (h : AsciiStart bs) : (fileLines bs).1 = splitLines bs [] := by
  rw [fileLines_decode, decode_asciiStart h]

theorem crlf_eq_lf_bytes (bs : List Nat) (h : AsciiStart bs) : (fileLines (crlf bs)).1 = (fileLines bs).1 := by
  rw [fileLines_ascii h, fileLines_ascii (asciiStart_crlf h), crlf_eq_lf]

def utf16le (cs : List Nat) : List Nat := cs.flatMap (fun c => [c % 256, c / 256])
def utf16be (cs : List Nat) : List Nat := cs.flatMap (fun c => [c / 256, c % 256])

theorem pairs_utf16 (cs : List Nat) (h : ∀ c ∈ cs, c < 65536) :
    pairsLE (utf16le cs) = cs ∧ pairsBE (utf16be cs) = cs := by
  induction cs with
  | nil => exact ⟨rfl, rfl⟩
  | cons c cs ih =>
    have hc := h c (by simp)
    obtain ⟨hle, hbe⟩ := ih fun x hx => h x (by simp [hx])
    unfold utf16le utf16be at *
    simp only [List.flatMap_cons, List.cons_append, List.nil_append, pairsLE, pairsBE, hle, hbe]
    constructor <;> (congr 1; omega)

theorem decode_utf16le (cs : List Nat) (h : ∀ c ∈ cs, c < 65536) : decode (0xff :: 0xfe :: utf16le cs) = cs := by
  simp [decode, (pairs_utf16 cs h).1]

theorem decode_utf16be (cs : List Nat) (h : ∀ c ∈ cs, c < 65536) : decode (0xfe :: 0xff :: utf16be cs) = cs := by
  simp [decode, (pairs_utf16 cs h).2]

theorem decode_ascii (bs : List Nat) (h : ∀ b ∈ bs, b < 128) (hl : bs.length ≠ 1) : decode bs = bs := by
  match bs with
  | [] => rfl
  | [_] => simp at hl
  | b0 :: b1 :: r => exact decode_asciiStart ⟨h b0 (by simp), h b1 (by simp)⟩

/-- for ASCII content (not exactly one byte long) the 8-bit file, BOM + UTF-16LE and BOM + UTF-16BE
    read as the same lines -/
theorem utf16_eq_ascii (bs : List Nat) (h : ∀ b ∈ bs, b < 128) (hl : bs.length ≠ 1) :
    (fileLines (0xff :: 0xfe :: utf16le bs)).1 = (fileLines bs).1 ∧
    (fileLines (0xfe :: 0xff :: utf16be bs)).1 = (fileLines bs).1 := by
  have h16 : ∀ c ∈ bs, c < 65536 := fun c hc => by have := h c hc; omega
  simp only [fileLines_decode, decode_utf16le bs h16, decode_utf16be bs h16, decode_ascii bs h hl, and_self]

theorem utf16le_eq_utf16be (cs : List Nat) (h : ∀ c ∈ cs, c < 65536) :
    (fileLines (0xff :: 0xfe :: utf16le cs)).1 = (fileLines (0xfe :: 0xff :: utf16be cs)).1 := by
  simp only [fileLines_decode, decode_utf16le cs h, decode_utf16be cs h]

/-- Q2, why `utf16_eq_ascii` excludes length 1: a one-byte file reads as empty, its UTF-16 form does not -/
theorem one_byte_file_is_empty :
    (fileLines [97]).1 = [] ∧ (fileLines (0xff :: 0xfe :: utf16le [97])).1 = [[97]] := by decide +kernel

/-- Q1: an 8-bit file that starts with a non-ASCII (UTF-8) character is rejected as a whole -/
theorem utf8_start_rejected :
    fileLines [0xc3, 0xa9, 32, 49, 10] = ([], { status := 2, ce0 := 0xc3, ce1 := 0xa9, errs := 1 }) := by decide +kernel

/-- character level: the lines of a concatenation are the concatenated lines (same lines, hence the same calls of
    compileRule); without the LF at the end of the first part: `concat_without_lf_merges` -/
theorem list_eq_concat (c1 c2 : List Nat) (h : c1 = [] ∨ c1.getLast? = some 10) :
    splitLines (c1 ++ c2) [] = splitLines c1 [] ++ splitLines c2 [] := by
  cases h with
  | inl h => subst h; simp [splitLines]
  | inr h =>
    obtain ⟨a, rfl⟩ := List.getLast?_eq_some_iff.mp h
    rw [List.append_assoc]
    exact splitLines_append_lf a c2 []

theorem list_eq_concat_bytes (f1 f2 : List Nat) (h1 : AsciiStart f1) (h2 : f2 = [] ∨ AsciiStart f2)
    (hlf : f1.getLast? = some 10) :
    (fileLines (f1 ++ f2)).1 = (fileLines f1).1 ++ (fileLines f2).1 := by
  have h12 : AsciiStart (f1 ++ f2) := by
    match f1, h1 with
    | b0 :: b1 :: r, h => exact h
  have hd2 : (fileLines f2).1 = splitLines f2 [] := by
    cases h2 with
    | inl h => subst h; rfl
    | inr h => exact fileLines_ascii h
  rw [fileLines_ascii h12, fileLines_ascii h1, hd2]
  exact list_eq_concat f1 f2 (Or.inr hlf)

theorem concat_without_lf_merges :
    splitLines ([97, 98] ++ [99, 10]) [] = [[97, 98, 99]] ∧
    splitLines [97, 98] [] ++ splitLines [99, 10] [] = [[97, 98], [99]] := by decide +kernel

/-- a blank or comment line inserted at a line boundary of a character stream does not change the entries that
    reach the opcode switch of compileRule.  A line of more than MAXSTRING-1 characters is split, and its tail is
    compiled: `long_comment_leaks`. -/
theorem blank_comment_inert (c1 c2 l : List Nat) (h1 : c1 = [] ∨ c1.getLast? = some 10)
    (hl : ∀ c ∈ l, c ≠ 10 ∧ c ≠ 13) (hlen : l.length ≤ MAXSTRING - 1) (hi : isInert l = true) :
    entries (splitLines (c1 ++ (l ++ [10]) ++ c2) []) = entries (splitLines (c1 ++ c2) []) := by
  have e1 : splitLines ((l ++ [10]) ++ c2) [] = [l] ++ splitLines c2 [] := by
    rw [List.append_assoc, List.singleton_append, splitLines_append_lf,
      splitLines_run [10] l [] hl (by simpa using hlen)]
    rfl
  rw [List.append_assoc, list_eq_concat c1 _ h1, e1, list_eq_concat c1 c2 h1]
  simp [entries, hi]

theorem trailing_ws_inert : ∀ (l ws cur : List Nat), (∀ c ∈ ws, c ≤ 32) → tokens (l ++ ws) cur = tokens l cur := by
  intro l ws cur h
  induction l generalizing cur with
  | nil => simpa using tokens_ws ws cur h
  | cons c l ih =>
    rw [List.cons_append, tokens, tokens]
    by_cases hc : c ≤ 32
    · rw [if_pos hc, if_pos hc, ih []]
    · rw [if_neg hc, if_neg hc, ih]

/-- the specification-level token list is what the getToken loop delivers: first token, then the tokens
    of the rest of the line (lines are shorter than MAXSTRING by `line_bound`) -/
theorem getToken_tokens (l : List Nat) (hl : l.length < MAXSTRING) :
    match getToken l with
    | .none => tokens l [] = []
    | .tok t r => t ≠ [] ∧ t.length < MAXSTRING ∧ tokens l [] = t :: tokens r [] ∧ r.length < l.length
    | _ => False := by
  have h1 := (List.dropWhile_sublist (· ≤ 32) (l := l)).length_le
  have hl1 := List.head?_dropWhile_not (· ≤ 32) l
  have e1 := tokens_dropWhile l
  simp only [getToken]
  generalize l.dropWhile (· ≤ 32) = l1 at *
  have hsplit := congrArg List.length (List.takeWhile_append_dropWhile (p := (32 < ·)) (l := l1))
  have e2 : tokens l1 [] = tokens (l1.dropWhile (32 < ·)) (l1.takeWhile (32 < ·)) := by
    conv => lhs; rw [← List.takeWhile_append_dropWhile (p := (32 < ·)) (l := l1)]
    rw [tokens_take_word _ _ _ fun c hc => by simpa using List.all_eq_true.mp List.all_takeWhile c hc, List.nil_append]
  have hr := List.head?_dropWhile_not (32 < ·) l1
  have h3 := (List.dropWhile_sublist (· ≤ 32) (l := l1.dropWhile (32 < ·))).length_le
  generalize l1.dropWhile (32 < ·) = r at *
  rw [List.length_append] at hsplit
  rw [if_neg (by omega)]
  cases ht : l1.takeWhile (32 < ·) with
  | nil =>
    -- then `l1` is empty: its head would be neither ≤ 32 nor > 32
    rw [if_pos List.isEmpty_nil]
    show tokens l [] = []
    cases l1 with
    | nil => rw [← e1]; rfl
    | cons c _ => simp [List.takeWhile_cons] at ht hl1; omega
  | cons c t =>
    rw [ht] at hsplit e2
    simp only [List.length_cons] at hsplit
    rw [if_neg (by simp), if_neg (by simp; omega)]
    refine ⟨by simp, by simp; omega, ?_, by omega⟩
    rw [← e1, e2, tokens_flush r (by simp), tokens_dropWhile]
    intro d hd
    rw [hd] at hr
    simpa using hr

/-- what "blank or comment line" means: no character > 32, or the first such character is '#' or '<' -/
theorem isInert_iff (l : List Nat) (hl : l.length < MAXSTRING) :
    isInert l = true ↔ (tokens l []).head? = none ∨ (∃ t, (tokens l []).head? = some t ∧ (t.head? = some 35 ∨ t.head? = some 60)) := by
  have := getToken_tokens l hl
  unfold isInert
  generalize getToken l = g at this ⊢
  cases g with
  | none => simp [show tokens l [] = [] from this]
  | tok t r => simp [this.2.2.1]
  | _ => exact this.elim

theorem isInert_trailing_ws (l ws : List Nat) (h : ∀ c ∈ ws, c ≤ 32) (hl : (l ++ ws).length < MAXSTRING) :
    isInert (l ++ ws) = isInert l := by
  have hl' : l.length < MAXSTRING := by simp at hl; omega
  have e1 := isInert_iff (l ++ ws) hl
  have e2 := isInert_iff l hl'
  rw [trailing_ws_inert l ws [] h] at e1
  exact Bool.eq_iff_iff.mpr (e1.trans e2.symm)

/-- Q5: a line of more than MAXSTRING-1 characters is cut after MAXSTRING-1, the next character is LOST
    and the remainder is read as a new line — so the tail of an over-long comment is compiled as a rule -/
theorem long_line_splits (l cur : List Nat) (c : Nat) (rest : List Nat) (h : ∀ x ∈ l, x ≠ 10 ∧ x ≠ 13)
    (hlen : cur.length + l.length = MAXSTRING - 1) (hc : c ≠ 13) :
    splitLines (l ++ c :: rest) cur = (cur ++ l) :: splitLines rest [] := by
  rw [splitLines_run _ l cur h (by omega), splitLines_break hc (Or.inr (by simp; omega))]

/-- witness for the length hypothesis of `blank_comment_inert`: '#' + 2046 x + "y" + "z 1" LF yields the
    entry "z 1" although the text is one comment line -/
theorem long_comment_leaks :
    entries (splitLines ((35 :: List.replicate 2046 120) ++ 121 :: [122, 32, 49, 10]) []) = [[122, 32, 49]] := by
  -- through `long_line_splits` and the token lemmas: evaluation would walk the 2052 characters several times
  have hlen : (35 :: List.replicate 2046 120 : List Nat).length = 2047 := by
    rw [List.length_cons, List.length_replicate]
  have hx : ∀ x ∈ 35 :: List.replicate 2046 120, x ≠ 10 ∧ x ≠ 13 ∧ 32 < x := fun x hx => by
    rcases List.mem_cons.mp hx with rfl | h
    · decide
    · rw [List.eq_of_mem_replicate h]; decide
  rw [long_line_splits _ [] 121 _ (fun x h => ⟨(hx x h).1, (hx x h).2.1⟩) (by rw [hlen]; decide) (by decide)]
  have h1 : isInert ([] ++ 35 :: List.replicate 2046 120) = true := by
    rw [List.nil_append, isInert_iff _ (by rw [hlen]; decide)]
    right
    have ht := tokens_take_word (35 :: List.replicate 2046 120) [] [] (fun x h => (hx x h).2.2)
    rw [List.append_nil] at ht
    rw [ht]
    exact ⟨_, rfl, Or.inl rfl⟩
  rw [entries, List.filter_cons, h1]
  decide

/-- lower-case hexadecimal digit character -/
def hexChar (d : Nat) : Nat := if d < 10 then 48 + d else 87 + d

theorem hexDigit_hexChar {d : Nat} (h : d < 16) : hexDigit? (hexChar d) = some d := by
  unfold hexChar hexDigit?
  by_cases h10 : d < 10
  · rw [if_pos h10, if_pos (by omega)]; congr 1; omega
  · rw [if_neg h10, if_neg (by omega), if_pos (by omega)]; congr 1; omega

/-- `\xhhhh` parses to the code point hhhh, for every 4-digit spelling (either case of a-f) -/
theorem escape_hex {d1 d2 d3 d4 v1 v2 v3 v4 : Nat} (h1 : hexDigit? d1 = some v1) (h2 : hexDigit? d2 = some v2)
    (h3 : hexDigit? d3 = some v3) (h4 : hexDigit? d4 = some v4) :
    parseChars [92, 120, d1, d2, d3, d4] = ⟨true, [(((v1 * 16 + v2) * 16 + v3) * 16 + v4) % 65536], 1, 0, 0⟩ := by
  have he : escape [120, d1, d2, d3, d4] 0 = .val ((((v1 * 16 + v2) * 16 + v3) * 16 + v4) % 65536) 5 0 0 := by
    simp [escape, hexValue, h1, h2, h3, h4]
  exact (parseCharsLoop_escape he (by decide)).trans parseCharsLoop_nil

theorem div_mul_add_div_mod (n k b : Nat) : n / (k * b) * b + n / k % b = n / k := by
  rw [← Nat.div_div_eq_div_mul, Nat.div_add_mod']

/-- for every 16-bit code point except the backslash itself (`literal_backslash_is_error`), the escape `\xhhhh`
    and the literal UTF-8 spelling (1, 2 or 3 bytes) are parsed to the same one-character string [cp], without
    message -/
theorem escape_eq_literal (cp : Nat) (h : cp < 65536) (h92 : cp ≠ 92) :
    parseChars [92, 120, hexChar (cp / 4096), hexChar (cp / 256 % 16), hexChar (cp / 16 % 16), hexChar (cp % 16)]
      = ⟨true, [cp], 1, 0, 0⟩ ∧
    parseChars (utf8 cp) = ⟨true, [cp], 1, 0, 0⟩ := by
  refine ⟨?_, parseChars_utf8 cp h h92⟩
  rw [escape_hex (hexDigit_hexChar (by omega)) (hexDigit_hexChar (by omega)) (hexDigit_hexChar (by omega))
    (hexDigit_hexChar (by omega))]
  -- the four digits put together again, two neighbours at a time
  rw [div_mul_add_div_mod cp 256 16, div_mul_add_div_mod cp 16 16, Nat.div_add_mod', Nat.mod_eq_of_lt h]

/-- the excluded point: a literal backslash is not a character but the start of an escape -/
theorem literal_backslash_is_error : (parseChars [92]).ok = false ∧ parseChars [92, 120, 48, 48, 53, 99] = ⟨true, [92], 1, 0, 0⟩ := by
  decide +kernel

/-- Q10: `\x` followed by fewer than 4 characters silently yields a literal 'x' -/
theorem short_hex_escape_is_x : parseChars [92, 120, 52, 49] = ⟨true, [120, 52, 49], 3, 0, 0⟩ := by decide +kernel

/-- permuting the dot characters inside each cell of a dots operand does not change what parseDots
    returns (the cells, or failure; which of several errors is reported may differ) -/
theorem dots_perm (c1 c2 : List (List Nat)) (h : CellsPerm c1 c2) :
    (parseDots (joinDash c1)).toOption = (parseDots (joinDash c2)).toOption := by
  rw [parseDots_toOption, parseDots_toOption, foldl_optStep_cellsPerm h]

theorem dots_perm_cell (a b : List Nat) (hp : a.Perm b) (h45 : 45 ∉ a) :
    (parseDots a).toOption = (parseDots b).toOption := by
  have := dots_perm [a] [b] (.cons hp h45 .nil)
  simpa [joinDash] using this

/-- a dots operand without '-' that parseDots accepts is ONE cell: LOU_DOTS ∨ the OR of the bits of its dot
    characters -/
theorem dots_cell_or (tok out : List Nat) (h45 : 45 ∉ tok) (h : parseDots tok = .ok out) :
    out = [orBits tok ||| DOTSBIT] := by
  cases tok with
  | nil => cases h
  | cons c l =>
    obtain ⟨s, hs, hf⟩ := bind_ok h
    obtain ⟨s1, h1, hl⟩ := bind_ok hs
    obtain ⟨v, hv, rfl⟩ := dotsStep_ok (fun e => h45 (by simp [e])) h1
    rw [foldlM_dots_cell l [] v s (fun hm => h45 (by simp [hm])) hl] at hf
    injection hf with hf
    rw [← hf, orBits_cons, cellStep_val hv]
    simp

/-- Q15: a repeated dot is an error, in any order (the OR alone would not see it) -/
theorem duplicate_dot_is_error : (parseDots [49, 50, 49]).toOption = none ∧ (parseDots [49, 49, 50]).toOption = none ∧
    (parseDots [97, 65]).toOption = none := by decide +kernel

example : (fileLines [97, 32, 49, 13, 10, 35, 120, 10, 10, 98, 32, 50]).1 = [[97, 32, 49], [35, 120], [], [98, 32, 50]] := by decide +kernel
example : entries [[97, 32, 49], [35, 120], [], [32, 9], [60, 33], [98, 32, 50]] = [[97, 32, 49], [98, 32, 50]] := by decide +kernel
example : AsciiStart [97, 10] ∧ [97, 10].getLast? = some 10 := ⟨⟨by decide, by decide⟩, by decide⟩
example : CellsPerm [[49, 50, 51], [52, 54]] [[51, 49, 50], [54, 52]] :=
  .cons (by decide) (by decide) (.cons (by decide) (by decide) .nil)
example : parseDots (joinDash [[49, 50, 51], [52, 54]]) = .ok [0x8007, 0x8028] ∧
    parseDots (joinDash [[51, 49, 50], [54, 52]]) = .ok [0x8007, 0x8028] := by decide +kernel
example : parseChars (utf8 0x20ac) = ⟨true, [0x20ac], 1, 0, 0⟩ ∧ utf8 0x20ac = [0xe2, 0x82, 0xac] := by decide +kernel
example : tokens [32, 97, 98, 9, 49, 50, 32, 32] [] = [[97, 98], [49, 50]] := by decide +kernel

end Lou.C16
