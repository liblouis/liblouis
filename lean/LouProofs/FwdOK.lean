/-
  The F0 model of the forward main pass (`Fwd.translate`) satisfies the engine contract E1–E5 of Layer A for every
  table, mode, input, capacity and cursor.  `emit_spec` and `step_spec` say what an emission and an iteration do to
  position and output; the contract and the progress of the loop (FwdTerm.lean) are both read off them.
-/
import LouProofs.Lemmas.Forward
import LouProofs.Lemmas.Pass

namespace Lou.FwdOK
open Lou Lou.Gen Lou.Fwd Lou.FwdC

variable {t : Table} {mode : Nat} {input : List Nat} {max : Nat}

/-- E2, E1 and E4/E5 of the engine contract for the output so far (`n` is the length of the input) -/
def OutOK (n max : Nat) (o : Out) : Prop :=
  o.map.length = o.cells.length ∧ o.cells.length ≤ max ∧ ∀ x ∈ o.map, 0 ≤ x ∧ x ≤ (n : Int)

def Grow (n max : Nat) (o o' : Out) : Prop := OutOK n max o' ∧ o.cells.length ≤ o'.cells.length

theorem Grow.refl {n max : Nat} {o : Out} (h : OutOK n max o) : Grow n max o o := ⟨h, Nat.le_refl _⟩

theorem Grow.trans {n max : Nat} {o o' o'' : Out} (h : Grow n max o o') (h' : Grow n max o' o'') : Grow n max o o'' :=
  ⟨h'.1, Nat.le_trans h.2 h'.2⟩

/-- the main pass's output is a stage accumulator with a cursor (`OutOK` is `AccOK` of its cells and map): what
    Lemmas/Pass.lean proves of `Acc` (`AccOK.push`, `memmove_ok`, `swapReplace_ok` …) holds of it -/
theorem acc_of_outOK {n max : Nat} {o : Out} (h : OutOK n max o) : C06Pass.AccOK n max ⟨o.cells, o.map⟩ := h

theorem updatePositions_grow {oc : List Nat} {il pos : Nat} {o o' : Out} (ho : OutOK input.length max o)
    (h : updatePositions oc il 0 pos input max o = some o') : Grow input.length max o o' ∧ pos + il ≤ input.length := by
  obtain ⟨hc, hm, h1, h2⟩ := updatePositions_some h
  have hp : OutOK input.length max o' := by
    unfold OutOK
    rw [hc, hm]
    exact (acc_of_outOK ho).push h1 ⟨by omega, by omega⟩
  exact ⟨⟨hp, by rw [hc]; exact List.length_append ▸ Nat.le_add_right _ _⟩, h2⟩

theorem putCharacter_grow {c pos : Nat} {o o' : Out} (ho : OutOK input.length max o)
    (h : putCharacter t mode c pos input max o = some o') : Grow input.length max o o' := by
  obtain ⟨oc, il, hp⟩ := putCharacter_eq t c (hasBit mode mNoUndefined)
  rw [hp mode rfl] at h
  exact (updatePositions_grow ho h).1

theorem insertNumberSign_grow {pos prevOp before : Nat} {o o' : Out} (ho : OutOK input.length max o)
    (h : insertNumberSign t input pos prevOp before max o = some o') : Grow input.length max o o' := by
  rcases insertNumberSign_cases t input pos prevOp before with hn | ⟨ns, -, hn⟩
  · cases (hn max o).symm.trans h
    exact .refl ho
  · rw [hn] at h
    exact (updatePositions_grow ho h).1

theorem each_spec (k p : Nat) (o : Out) :
    p ≤ (emit.each t mode input max k p o).1 ∧
    ((emit.each t mode input max k p o).2.2 = true → 0 < k → p < (emit.each t mode input max k p o).1) ∧
    (p < input.length → (emit.each t mode input max k p o).1 ≤ input.length) ∧
    (OutOK input.length max o → Grow input.length max o (emit.each t mode input max k p o).2.1) := by
  -- the cases of `emit.each.induct`: nothing left; the output is full; the end of the input is reached; one more character
  fun_induction emit.each t mode input max k p o
  case case1 => exact ⟨Nat.le_refl _, fun _ h => absurd h (Nat.lt_irrefl _), Nat.le_of_lt, .refl⟩
  case case2 => exact ⟨Nat.le_refl _, nofun, Nat.le_of_lt, .refl⟩
  case case3 hpc _ => exact ⟨Nat.le_succ _, fun _ _ => Nat.lt_succ_self _, id, fun ho => putCharacter_grow ho hpc⟩
  case case4 hpc hlt ih =>
    obtain ⟨h1, -, h3, h4⟩ := ih
    exact ⟨by omega, fun _ _ => by omega, fun _ => h3 (by omega), fun ho =>
      (putCharacter_grow ho hpc).trans (h4 (putCharacter_grow ho hpc).1)⟩

theorem emit_spec (t : Table) (mode : Nat) (input : List Nat) (max : Nat) (s : Sel) (pos : Nat) (o : Out) :
    pos ≤ (emit t mode input max s pos o).1 ∧
    ((emit t mode input max s pos o).2.2 = true → 1 ≤ s.charslen → pos < (emit t mode input max s pos o).1) ∧
    (pos < input.length → (emit t mode input max s pos o).1 ≤ input.length) ∧
    (OutOK input.length max o → Grow input.length max o (emit t mode input max s pos o).2.1) := by
  -- the cases of `emit.fun_cases`: the pseudo rule (character put; output full); an opcode without a rule; a rule with
  -- cells (put; output full); the `=` operand
  fun_cases emit t mode input max s pos o
  case case2 | case3 | case5 => exact ⟨Nat.le_refl _, nofun, Nat.le_of_lt, .refl⟩
  case case1 o' hpc => exact ⟨Nat.le_succ _, fun _ _ => Nat.lt_succ_self _, id, fun ho => putCharacter_grow ho hpc⟩
  case case4 o' hu =>
    exact ⟨Nat.le_add_right _ _, fun _ hs => Nat.lt_add_of_pos_right hs, fun _ => (updatePositions_some hu).2.2.2,
      fun ho => (updatePositions_grow ho hu).1⟩
  case case6 => exact each_spec ..

/-- invariant of the main loop; `lastIn`, `lastOut` are where the epilogue backs off to -/
def StInv (n max : Nat) (st : St) : Prop :=
  OutOK n max st.out ∧ st.pos ≤ n ∧ st.lastOut ≤ st.out.cells.length ∧ st.lastIn ≤ st.pos

theorem lastWord_inv {st : St} (h : StInv input.length max st) : StInv input.length max
    { st with lastIn := (lastWord t input st).lastIn, lastOut := (lastWord t input st).lastOut } :=
  ⟨h.1, h.2.1, lastWord_lastOut t input st h.2.2.1, lastWord_lastIn t input st h.2.2.2⟩

theorem step_spec (t : Table) (mode : Nat) (input : List Nat) (max : Nat) (st : St) :
    (StInv input.length max st → StInv input.length max (step t mode input max st).1) ∧
    ((step t mode input max st).2 = false →
      1 ≤ (selectRule t mode st.dontContract input st.pos (beforeAttrs t input st.pos) st.prevOp).charslen →
      st.pos < (step t mode input max st).1.pos) := by
  rw [step_eq]
  dsimp only
  by_cases he : st.pos = input.length
  · rw [if_pos he]; exact ⟨lastWord_inv, nofun⟩
  rw [if_neg he]
  cases hins : insertNumberSign t input st.pos st.prevOp (beforeAttrs t input st.pos) max st.out with
  | none => exact ⟨lastWord_inv, nofun⟩
  | some o1 =>
    obtain ⟨e1, e2, e3, e4⟩ := emit_spec t mode input max
      (selectRule t mode st.dontContract input st.pos (beforeAttrs t input st.pos) st.prevOp) st.pos o1
    unfold StInv
    rw [remember_pos, remember_out, remember_lastIn, remember_lastOut]
    refine ⟨fun h => ?_, fun hd => e2 (remember_snd_false hd)⟩
    obtain ⟨i1, i2, i3, i4⟩ := lastWord_inv (t := t) h
    have g1 := insertNumberSign_grow i1 hins
    have g2 := e4 g1.1
    exact ⟨g2.1, e3 (Nat.lt_of_le_of_ne i2 he), Nat.le_trans i3 (Nat.le_trans g1.2 g2.2), Nat.le_trans i4 e1⟩

theorem loop_inv (n : Nat) {st : St} (h : StInv input.length max st) :
    StInv input.length max (loop t mode input max n st) := by
  rw [loop_eq_iter]
  exact iter_inv _ (fun s => (step_spec t mode input max s).1) n st h

theorem stInv_init (cpos cstat : Int) : StInv input.length max { out := { cpos := cpos, cstat := cstat } } :=
  ⟨⟨rfl, Nat.zero_le _, by simp⟩, Nat.zero_le _, Nat.zero_le _, Nat.zero_le _⟩

theorem epilogue_contract {st : St} (ho : OutOK input.length max st.out) (hp : st.pos ≤ input.length)
    (hl : st.lastIn ≤ st.pos) :
    let r := epilogue t input st
    r.out.length ≤ max ∧ r.map.length = r.out.length ∧ r.realInlen ≤ input.length ∧
    ∀ x ∈ r.map, 0 ≤ x ∧ x ≤ (input.length : Int) := by
  obtain ⟨o1, o2, o3⟩ := ho
  obtain ⟨p, back, hpn, hr⟩ := epilogue_eq t input st
  rw [hr]
  -- backed off to the last word or not: a common prefix of cells and map, or all of them
  cases back
  · exact ⟨o2, o1, hpn hp hl, o3⟩
  · refine ⟨Nat.le_trans (List.length_take_le' ..) o2, ?_, hpn hp hl, fun x hx => o3 x (List.mem_of_mem_take hx)⟩
    show (List.take _ _).length = (List.take _ _).length
    rw [List.length_take, List.length_take, o1]

/-- E1–E4 of the engine contract, and E5 (no negative map entry) -/
theorem translate_contract (t : Table) (mode : Nat) (input : List Nat) (max : Nat) (cpos cstat : Int) :
    let r := translate t mode input max cpos cstat
    r.out.length ≤ max ∧ r.map.length = r.out.length ∧ r.realInlen ≤ input.length ∧
    ∀ x ∈ r.map, 0 ≤ x ∧ x ≤ (input.length : Int) := by
  obtain ⟨ho, hp, -, hl⟩ := loop_inv (t := t) (mode := mode) (input.length + 2) (stInv_init (max := max) cpos cstat)
  rw [translate_eq]
  exact epilogue_contract ho hp hl

end Lou.FwdOK
