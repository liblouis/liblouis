/-
  C04 — reported lengths are truthful and no input is silently dropped.  Layer A: for an ARBITRARY engine
  satisfying the contract.  Full statement of the property:
    (a) ret = 1 → 0 ≤ inlen' ≤ inlen ∧ outlen' ≤ outlen ∧ every produced element is a display character (≠ NUL)
        or, in dotsIO mode, a flagged dot pattern
    (b) generous capacity ∧ no no_translate → inlen' = length up to the first NUL
    (c) ret = 0 ↔ invalid arguments ∨ table does not compile ∨ a cell without display mapping, and in the latter
        two cases an error is logged
  `0 ≤ inlen'` is FALSE for an engine that emits a map entry −1 (an end indicator at input position 0) followed by
  a pass that stops at position 0 (`inlen_negative_witness`); it is proved under `EngineNonNeg`.
  (b) is a statement about the engines; it is not proved.
-/
import LouProofs.Contract

namespace Lou.C04
open Lou Lou.Drv Lou.Contract Lou.C02

theorem fwdFinish_ret (disp : Nat → Nat) (a : Args) (s : FwdState) :
    (fwdFinish disp a s).ret = 1 ∨ (fwdFinish disp a s).ret = 0 := by
  rcases fwdFinish_cases disp a s with ⟨-, h⟩ | ⟨f, -, h⟩ <;> rw [h]
  · exact .inr rfl
  · exact .inl rfl

/-- `inlen'` is an entry of the composed map -/
theorem fwd_inlen_bounds (t : TableInfo) (disp : Nat → Nat) (e : Engine) (a : Args) {lo : Int}
    (hi : FwdInv (cutAtNul a.inbuf).length a.outlen lo (fwdRun t e a)) (hret : (fwd (some t) disp e a).ret = 1) :
    lo ≤ (fwd (some t) disp e a).inlen ∧ (fwd (some t) disp e a).inlen ≤ (cutAtNul a.inbuf).length := by
  rw [fwd_some] at hret ⊢
  obtain ⟨outbuf, h⟩ := fwdFinish_of_ret hret
  rw [h]
  exact hi.rng _ (getD_mem_or (by rw [hi.len]; omega))

theorem fwd_lengths (t : TableInfo) (disp : Nat → Nat) (e : Engine) (a : Args)
    (he : EngineOKFwd e) (hret : (fwd (some t) disp e a).ret = 1) :
    -1 ≤ (fwd (some t) disp e a).inlen ∧
    (fwd (some t) disp e a).inlen ≤ a.inbuf.length ∧
    0 ≤ (fwd (some t) disp e a).outlen ∧
    (fwd (some t) disp e a).outlen ≤ a.outlen := by
  have hi := fwdRun_inv t e a he
  have hb := fwd_inlen_bounds t disp e a hi hret
  have hf := hi.fits
  have hc := cutAtNul_length_le a.inbuf
  rw [fwd_some] at hret ⊢ hb
  obtain ⟨outbuf, h⟩ := fwdFinish_of_ret hret
  rw [h] at hb ⊢
  simp only [fwdOk] at hb ⊢
  omega

theorem fwd_inlen_nonneg (t : TableInfo) (disp : Nat → Nat) (e : Engine) (a : Args)
    (he : EngineOKFwd e) (hn : EngineNonNeg e) (hret : (fwd (some t) disp e a).ret = 1) :
    0 ≤ (fwd (some t) disp e a).inlen :=
  (fwd_inlen_bounds t disp e a (fwdRun_inv_lo t e a he (Int.le_refl 0) hn) hret).1

/-- (a), the elements in the default encoding -/
theorem fwd_valid_out_default (t : TableInfo) (disp : Nat → Nat) (e : Engine) (a : Args)
    (hm : hasBit a.mode mDotsIO = false) (hret : (fwd (some t) disp e a).ret = 1) :
    ∀ c ∈ (fwd (some t) disp e a).outbuf, c ≠ 0 ∧ ∃ d ∈ (fwdRun t e a).output, c = disp d := by
  rw [fwd_some] at hret ⊢
  obtain ⟨hnz, e⟩ := fwdFinish_default hm hret
  rw [e]
  exact List.forall_mem_map.mpr fun d hd => ⟨hnz d hd, d, hd, rfl⟩

/-- (a), the elements in dotsIO mode without ucBrl: the cells as the last pass left them.  `ret = 1` is a conclusion
    here and a hypothesis in the default encoding: only a cell without display mapping makes the final stage fail.
    That the cells carry the LOU_DOTS flag is the contract clause `EngineFlagged`, which no theorem uses or proves -/
theorem fwd_valid_out_dotsIO (t : TableInfo) (disp : Nat → Nat) (e : Engine) (a : Args)
    (hm : hasBit a.mode mDotsIO = true) (hu : hasBit a.mode mUcBrl = false) :
    (fwd (some t) disp e a).ret = 1 ∧
    (fwd (some t) disp e a).outbuf = (fwdRun t e a).output := by
  rw [fwd_some, fwdFinish_of_some (f := id) fun _ _ => encodeCell_dotsIO hm hu]
  exact ⟨rfl, List.map_id _⟩

/-- (c).  Invalid arguments (NULL pointers, negative lengths) are outside the model's argument type and are
    covered by the harness run only -/
theorem fwd_ret0_iff (tbl : Option TableInfo) (disp : Nat → Nat) (e : Engine) (a : Args) :
    (fwd tbl disp e a).ret = 0 ↔
      tbl = none ∨ ∃ t, tbl = some t ∧ hasBit a.mode mDotsIO = false ∧
        ∃ c ∈ (fwdRun t e a).output, disp c = 0 := by
  cases tbl with
  | none => simp [failResult]
  | some t =>
    simp only [fwd_some, fwdFinish_ret_zero_iff, encodeCell_eq_none, reduceCtorEq, false_or,
      Option.some.injEq, exists_eq_left']
    exact ⟨fun ⟨c, hc, hm, hz⟩ => ⟨hm, c, hc, hz⟩, fun ⟨hm, c, hc, hz⟩ => ⟨c, hc, hm, hz⟩⟩

/-- (c): in both failure cases the model logs an error-level message -/
theorem fwd_ret0_logged (tbl : Option TableInfo) (disp : Nat → Nat) (e : Engine) (a : Args)
    (h : (fwd tbl disp e a).ret = 0) : (fwd tbl disp e a).errors = 1 := by
  cases tbl with
  | none => rfl
  | some t =>
    rw [fwd_some] at h ⊢
    rw [fwdFinish_of_none (fwdFinish_ret_zero_iff.mp h)]; rfl

/-- pass 1 maps its single output to −1 (an end indicator attached to "position −1"),
    pass 2 stops without consuming anything -/
def negEngine : Engine := fun _ hist _ =>
  if hist.length = 0 then { out := [1], map := [-1], realInlen := 1, cpos := -1, cstat := 1 }
  else { out := [], map := [], realInlen := 0, cpos := -1, cstat := 1 }

/-- `mode := 4` is dotsIO: the final stage then copies the cells as they are, and the witness can do with the display
    table `fun _ => 0`, which maps no cell in the default encoding -/
def negArgs : Args := { inbuf := [97], outlen := 1, mode := 4, typeform := none, spacing := none,
                        wantOutputPos := false, wantInputPos := false, cursor := none }

theorem inlen_negative_witness :
    (fwd (some { corrections := false, numPasses := 2 }) (fun _ => 0) negEngine negArgs).ret = 1 ∧
    (fwd (some { corrections := false, numPasses := 2 }) (fun _ => 0) negEngine negArgs).inlen = -1 := by
  decide +kernel

/-- non-vacuity: the identity engine satisfies the whole contract -/
def idEngine : Engine := fun _ _ pin =>
  { out := pin.chars.take pin.maxlen,
    map := (List.range (pin.chars.take pin.maxlen).length).map (fun (i : Nat) => (i : Int)),
    realInlen := (pin.chars.take pin.maxlen).length, cpos := pin.cpos, cstat := pin.cstat }

theorem idEngine_ok : EngineOKFwd idEngine ∧ EngineNonNeg idEngine := by
  constructor
  · intro ini hist pin
    have hl : (pin.chars.take pin.maxlen).length = min pin.maxlen pin.chars.length := List.length_take
    refine ⟨by simp only [idEngine]; omega, by simp [idEngine], by simp only [idEngine]; omega, fun p hp => ?_⟩
    obtain ⟨i, hi, rfl⟩ := List.mem_map.mp hp
    have := List.mem_range.mp hi
    omega
  · intro ini hist pin p hp
    obtain ⟨i, _, rfl⟩ := List.mem_map.mp hp
    omega

/-- (a) backward -/
theorem back_lengths (t : TableInfo) (dotsFor : Nat → Nat) (e : Engine) (a : Args)
    (he : EngineOKBack e) (hret : (back (some t) dotsFor e a).ret = 1) :
    0 ≤ (back (some t) dotsFor e a).inlen ∧
    (back (some t) dotsFor e a).inlen ≤ (cutAtNul a.inbuf).length ∧
    (back (some t) dotsFor e a).inlen ≤ a.inbuf.length ∧
    0 ≤ (back (some t) dotsFor e a).outlen ∧
    (back (some t) dotsFor e a).outlen ≤ a.outlen := by
  have ⟨h0, hk, hf⟩ := backRun_inv t dotsFor e a he
  have hc := cutAtNul_length_le a.inbuf
  rw [back_some] at hret ⊢
  rw [backFinish_of_ret hret]
  simp only [backOk]
  omega

/-- (c) backward: the second cause of failure is a pass that reports failure -/
theorem back_ret0_iff (tbl : Option TableInfo) (dotsFor : Nat → Nat) (e : Engine) (a : Args) :
    (back tbl dotsFor e a).ret = 0 ↔ tbl = none ∨ ∃ t, tbl = some t ∧ (backRun t dotsFor e a).failed = true := by
  cases tbl with
  | none => simp [failResult]
  | some t => simp [backFinish_ret_zero_iff]

end Lou.C04
