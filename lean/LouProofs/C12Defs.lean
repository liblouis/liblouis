/-
  C12 — `compile_defsFound`: in every logical table the compile model produces (after any prefix of the
  entries, hence after any number of run-time additions, and after finalisation) every character and every
  cell of a character definition has its record in the character / cell table — the clause `cDefFound`
  that the executable checker `checkTable` evaluates on every real image (`checkTable_defsFound`).

  It rests on two clauses of `Lou.Compile.compileEntry_adds`: no step of the compiler removes a record or changes its
  value (`Lou.C15.Grows`), and `compileCharDef` files the character and all cells before it adds the rule.  Hypothesis
  forced by the model: no entry has opcode `grouping` (the compile model has no `compileGrouping`; such an entry would be
  filed like an ordinary rule, which is not what the C code does — it files both characters and both cells first).
-/
import LouModel.Image
import LouProofs.Lemmas.Compile
import LouProofs.C12

namespace Lou.C12
open Lou Lou.Gen Lou.Compile Lou.Image Lou.C15

theorem defAttr_none (op : Nat) (h : defAttr op = none) (hg : op ≠ CTO_Grouping) : isDefOpcode op = false := by
  -- the definition opcodes are a range of nine: `grouping` and eight that `defAttr` knows (`litdigit` lies outside)
  have key : ∀ op < CTO_UpLow, CTO_Space ≤ op → op ≠ CTO_Grouping → defAttr op ≠ none := by decide +kernel
  cases hd : isDefOpcode op with
  | false => rfl
  | true =>
    simp only [isDefOpcode, Bool.and_eq_true, decide_eq_true_eq] at hd
    exact absurd h (key op hd.2 hd.1 hg)

theorem compileEntry_defsFound {t t' : Table} {e : Entry} (h : DefsFound t) (hg : e.opcode ≠ CTO_Grouping)
    (hc : compileEntry t e = some t') : DefsFound t' := by
  obtain ⟨r', hop, ha, hfound⟩ := compileEntry_adds hc
  intro r hr hd
  rw [ha.rules] at hr
  rcases List.mem_append.mp hr with hr | hr
  -- an old definition keeps its records, the new one has them
  · exact HasRecords.grows (h r hr hd) ha.grows
  · rw [List.mem_singleton.mp hr] at hd ⊢
    refine hfound fun h0 => ?_
    rw [IsDef, hop, defAttr_none _ h0 hg] at hd
    cases hd

theorem compile_defsFound_unfinalised (es : List Entry) (t : Table) (hop : ∀ e ∈ es, e.opcode ≠ CTO_Grouping)
    (hc : compileUnfinalised es = some t) : DefsFound t :=
  compileUnfinalised_induction hc (fun r hr => nomatch hr) fun e he _ _ ih h =>
    compileEntry_defsFound ih (List.forall_mem_cons.mpr ⟨by decide, hop⟩ e he) h

theorem compile_defsFound (es : List Entry) (t : Table) (hop : ∀ e ∈ es, e.opcode ≠ CTO_Grouping)
    (hc : compile es = some t) : DefsFound t := by
  obtain ⟨t0, ht0, rfl⟩ := compile_some hc
  exact compile_defsFound_unfinalised es t0 hop ht0

/-- a definition with two cells, a definition added after a translation rule -/
example : ∃ t, compile [{ opcode := CTO_LowerCase, chars := [97], dots := [0x8001, 0x8003] },
      { opcode := CTO_Always, chars := [97, 97], dots := [0x8005] },
      { opcode := CTO_Sign, chars := [98], dots := [0x8103] }] = some t ∧
    t.dots.map (·.value) = [0xffff, 0x8003, 0x8001, 0x8005, 0x8103] ∧ checkTable t [] = [] := by
  decide +kernel

end Lou.C12
