/-
  C18 — "Metadata queries select tables by the documented scoring order."

  Property text (properties.jsonl):
    lou_findTable returns NULL exactly when lou_findTables returns no table (no positive
    match or a malformed query) and otherwise one of the tables lou_findTables lists; a
    table whose metadata equals the query is always found.  For a queried feature a table
    declaring the same value outranks one lacking the key, which outranks one declaring a
    different value, and unrelated extra fields cost less than either, so a table that
    dominates all others in this order is returned whatever the order in which tables were
    indexed.  lou_getTableInfo returns the value of the first occurrence of the key in the
    file.

  The theorems are about the model `LouModel/Meta.lean` (a transcription of liblouis/metadata.c) with the
  weights of `Gen/MetaConsts.lean` (regenerated from the C source by tools/lv/extract_meta.py); the model is
  tied to the C code by the differential check tools/lv/props/C18.py.
  The predicates of the statements (`KeysSorted`, `group`, `contrib`, `extraKeys`, `keySum`, `Weights.Sane`, `noSpecial`,
  `LinesDescending` …) are defined in Lemmas/Meta and Lemmas/MetaScore, whose lemmas are stated with them.

  FULL STATEMENTS vs. what the code forces
  * exact_found.  Wanted: "if the table's features are the query's features, the table is found".  The code
    forces every queried key to be declared ONCE by the table (`DeclaresSame`).  Without it:
      - `exact_score_fails_with_two_values`: unicode-range declared as ucs2 AND ucs4, queried ucs4: the key
        contributes 9, not 10;
      - `exact_found_fails_with_many_languages`: the queried language among 104 other `language` features
        scores -1 and is NOT found.  The Lean witness repeats ONE other language, which `list_sort` would drop
        from a parsed table; the real code shows the same with 105 distinct `#+language:` lines
        (tools/lv/props/C18.py `witnesses`).
  * index_order_irrelevant.  Wanted: "a table that dominates all others is returned whatever the index
    order".  The code forces `0 < score`: a dominating table with a non-positive quotient is never returned
    (`dominating_but_not_positive`); NULL is returned for every order (`index_order_irrelevant_none`), as the
    first sentence of the property says.
  * tableInfo_first.  Wanted: "the value of the first occurrence of the key in the file".  The code forces
    `NoDupFeatures`: `list_sort` keeps the LAST line of equal features, so `#+x:a / #+x:b / #+x:a` answers `b`
    (`tableInfo_first_fails_with_dup`; on the file bytes `tableInfo_first_fails_on_bytes`): a defect of
    liblouis w.r.t. the property text (finding C18-F1).
-/
import LouProofs.Lemmas.Meta
import LouProofs.Lemmas.MetaScore

namespace Lou.C18
open Lou Lou.Meta Lou.Gen.MetaConsts

/-- `lou_findTable` returns the first table of maximal quotient (core's `List.maxOn?`), if that quotient is positive -/
theorem findTable_eq (q : List Feat) (idx : List Table) :
    findTable q idx = ((idx.maxOn? (score q)).filter fun t => 0 < score q t).map (·.name) := by
  rw [findTable, findLoop_eq]
  cases idx.maxOn? (score q) with
  | none => rfl
  | some t =>
    show (if 0 < score q t then _ else _ : Option Str × Int).1 = _
    rw [Option.filter_some]
    split <;> simp [*]

/-- every statement about the selection below is read off this -/
theorem findTable_cases (q : List Feat) (idx : List Table) :
    (findTable q idx = none ∧ ∀ t ∈ idx, score q t ≤ 0) ∨
    ∃ t ∈ idx, findTable q idx = some t.name ∧ 0 < score q t ∧ ∀ u ∈ idx, score q u ≤ score q t := by
  rw [findTable_eq]
  cases h : idx.maxOn? (score q) with
  | none =>
    refine .inl ⟨rfl, fun t ht => ?_⟩
    have := List.isSome_maxOn?_of_mem (f := score q) ht
    rw [h] at this
    cases this
  | some t =>
    have hmax : ∀ u ∈ idx, score q u ≤ score q t := fun u hu => by
      simpa [h] using List.le_apply_get_maxOn?_of_mem (f := score q) hu
    rw [Option.filter_some]
    by_cases hp : 0 < score q t
    · exact .inr ⟨t, List.maxOn?_mem h, by simp [hp], hp, hmax⟩
    · exact .inl ⟨by simp [hp], fun u hu => Int.le_trans (hmax u hu) (Int.not_lt.1 hp)⟩

theorem mem_findTables_iff (q : List Feat) (idx : List Table) (n : Str) :
    n ∈ findTables q idx ↔ ∃ t ∈ idx, t.name = n ∧ 0 < score q t := by
  have h0 : FINDS_THRESHOLD = 0 := rfl
  simp only [findTables, List.mem_map, mem_findMatches, List.not_mem_nil, false_or, h0]
  exact ⟨fun ⟨_, ⟨t, ht, hp, hm⟩, hn⟩ => ⟨t, ht, by rw [hm] at hn; exact hn, hp⟩,
    fun ⟨t, ht, hn, hp⟩ => ⟨_, ⟨t, ht, hp, rfl⟩, hn⟩⟩

theorem findTable_none_iff_no_positive (q : List Feat) (idx : List Table) :
    findTable q idx = none ↔ ∀ t ∈ idx, score q t ≤ 0 := by
  rcases findTable_cases q idx with ⟨he, h⟩ | ⟨t, ht, he, hp, _⟩
  · exact ⟨fun _ => h, fun _ => he⟩
  · simp only [he, reduceCtorEq, false_iff]
    exact fun h => absurd (h t ht) (by omega)

/-- a malformed query is `q = []` -/
theorem findTable_none_iff (q : List Feat) (idx : List Table) :
    findTable q idx = none ↔ findTables q idx = [] := by
  rw [findTable_none_iff_no_positive, List.eq_nil_iff_forall_not_mem]
  simp only [mem_findTables_iff, not_exists, not_and]
  exact ⟨fun h n t ht _ => by have := h t ht; omega, fun h t ht => by have := h _ t ht rfl; omega⟩

/-- a malformed query (`parseQuery` logs an error and returns NULL, in the model `[]`) matches nothing -/
theorem malformed_query_finds_nothing (idx : List Table) (hidx : ∀ t ∈ idx, t.feats ≠ []) :
    findTable [] idx = none := by
  -- `hidx` belongs to the statement only: every turn of the loop adds EXTRA < 0, also for a table without features
  have _ := hidx
  have key : ∀ (n : Nat) (l : List Feat), matchLoop strictW n [] l ≤ 0 := by
    intro n
    induction n with
    | zero => intro l; simp [matchLoop]
    | succ n ih =>
      intro l
      cases l with
      | nil => simp [matchLoop]
      | cons a l =>
        have := ih (dropRun a.key l)
        have : strictW.extra = -1 := rfl
        rw [matchLoop]; omega
  exact (findTable_none_iff_no_positive _ _).2 fun t _ => key _ _

theorem findTable_mem (q : List Feat) (idx : List Table) (n : Str) (h : findTable q idx = some n) :
    n ∈ findTables q idx := by
  rcases findTable_cases q idx with ⟨he, _⟩ | ⟨t, ht, he, hp, _⟩
  · rw [he] at h; cases h
  · exact (mem_findTables_iff ..).2 ⟨t, ht, Option.some.inj (he.symm.trans h), hp⟩

/-- the order facts the property text states, on the constants extracted from metadata.c:
    same value > key absent > other value; an unrelated field costs less than either; a
    perfect language match counts as a same value; thresholds of the two loops agree -/
theorem weight_order :
    NEG_MATCH < UNDEFINED ∧ UNDEFINED < EXTRA ∧ EXTRA < 0 ∧ 0 < POS_MATCH ∧
    0 < POS_MATCH - UCS2_FOR_UCS4_PENALTY ∧ POS_MATCH - UCS2_FOR_UCS4_PENALTY < POS_MATCH ∧
    LANG_POS_MATCH = POS_MATCH ∧ LANG_EXTRA < 0 ∧ 0 < LANG_POS_MATCH + LANG_EXTRA ∧
    NEG_MATCH_FUZZY < UNDEFINED_FUZZY ∧ UNDEFINED_FUZZY < EXTRA_FUZZY ∧ EXTRA_FUZZY < 0 ∧ 0 < POS_MATCH_FUZZY ∧
    FIND_INITIAL_BEST = 0 ∧ FINDS_THRESHOLD = 0 ∧
    (0 + EXTRA_LANG_ADD).tdiv EXTRA_LANG_DIV = 0 := by decide +kernel

theorem parseQuery_sorted (query : Str) : KeysStrictSorted (parseQuery query).1 := by
  unfold parseQuery
  split
  · exact List.Pairwise.nil
  · exact listSort_cmpKeys_sorted _

theorem analyzeTable_sorted (bytes : List Nat) (activeOnly : Bool) : KeysSorted (analyzeTable bytes activeOnly).1 := by
  unfold analyzeTable
  simp only
  split
  · exact List.Pairwise.nil
  · exact listSort_cmpFeatures_sorted _

theorem score_eq_sum (q t : List Feat) (hq : KeysStrictSorted q) (ht : KeysSorted t) (fuzzy : Bool) :
    matchFeatureLists q t fuzzy = keySum (if fuzzy then fuzzyW else strictW) q t :=
  matchLoop_eq_keySum _ _ q t (Nat.le_refl _) hq ht

/-- plain (non language) key, outside the ucs4-query special case:
    key absent ↦ UNDEFINED, some declared value equal ↦ POS, declared with other values only ↦ NEG -/
theorem key_contribution (W : Weights) (hW : W.Sane) (qf : Feat) (t : List Feat)
    (hplain : isLangKey qf.key = false)
    (hns : noSpecial (cmpCI qf.key kUnicodeRange == .eq) qf.val.strOf) :
    (group qf.key t = [] → contrib W qf t = W.undefined) ∧
    ((∃ f ∈ group qf.key t, cmpCI qf.val.strOf f.val.strOf = .eq) → contrib W qf t = W.posMatch) ∧
    (group qf.key t ≠ [] → (∀ f ∈ group qf.key t, cmpCI qf.val.strOf f.val.strOf ≠ .eq) → contrib W qf t = W.negMatch) := by
  refine ⟨contrib_of_nil W qf, fun ⟨f, hf, he⟩ => ?_, fun hne hall => ?_⟩
  · rw [contrib_of_ne_nil W qf (List.ne_nil_of_mem hf), hplain]
    exact (strBest_of_same W hW _ _ _ ⟨_, List.mem_map_of_mem hf, he⟩).2 hns
  · rw [contrib_of_ne_nil W qf hne, hplain]
    exact strBest_other W hW _ _ hns _ (List.forall_mem_map.2 hall)

/-- the ucs4-query special case included: an equal declared value still gives at least POS-1 -/
theorem key_contribution_special (W : Weights) (hW : W.Sane) (qf : Feat) (t : List Feat)
    (hplain : isLangKey qf.key = false)
    (h : ∃ f ∈ group qf.key t, cmpCI qf.val.strOf f.val.strOf = .eq) :
    W.posMatch - UCS2_FOR_UCS4_PENALTY ≤ contrib W qf t := by
  obtain ⟨f, hf, he⟩ := h
  rw [contrib_of_ne_nil W qf (List.ne_nil_of_mem hf), hplain]
  exact (strBest_of_same W hW _ _ _ ⟨_, List.mem_map_of_mem hf, he⟩).1

/-- language keys (language, region); the perfect language match is POS by `weight_order` -/
theorem lang_key_contribution (W : Weights) (hW : W.Sane) (qf : Feat) (t : List Feat)
    (hlang : isLangKey qf.key = true) :
    (group qf.key t = [] → contrib W qf t = W.undefined) ∧
    (∀ f, group qf.key t = [f] → qf.val.tagOf ≠ [] →
        qf.val.tagOf.map lowerStr = f.val.tagOf.map lowerStr →
        starRange f.val.tagOf = false → contrib W qf t = LANG_POS_MATCH) ∧
    (group qf.key t ≠ [] → (∀ f ∈ group qf.key t, matchLanguageTags qf.val.tagOf f.val.tagOf ≤ 0) →
        contrib W qf t = W.negMatch) := by
  refine ⟨contrib_of_nil W qf, fun f hg hne hsame hstar => ?_, fun hne hall => ?_⟩
  · have hm := matchLanguageTags_same _ _ hne hsame hstar
    rw [contrib_of_ne_nil W qf (by simp [hg]), hlang, hg, if_pos rfl]
    exact (langBest_single W hW _ _ (by rw [hm]; decide)).trans hm
  · rw [contrib_of_ne_nil W qf hne, hlang]
    exact langBest_none W hW _ _ (List.forall_mem_map.2 hall)

/-- pointwise at least as good on every queried key and no more unrelated keys, strictly
    better somewhere ⇒ strictly higher match quotient -/
theorem dominance (q tA tB : List Feat) (hq : KeysStrictSorted q) (hA : KeysSorted tA) (hB : KeysSorted tB)
    (hge : ∀ qf ∈ q, contrib strictW qf tB ≤ contrib strictW qf tA)
    (hex : extraKeys q tA ≤ extraKeys q tB)
    (hst : (∃ qf ∈ q, contrib strictW qf tB < contrib strictW qf tA) ∨ extraKeys q tA < extraKeys q tB) :
    matchFeatureLists q tB < matchFeatureLists q tA := by
  have ⟨hle, hlt⟩ := sum_map_le_lt (contrib strictW · tB) (contrib strictW · tA) q hge
  have hx : strictW.extra = -1 := rfl
  rw [score_eq_sum q tA hq hA, score_eq_sum q tB hq hB]
  simp only [Bool.false_eq_true, if_false, keySum, hx]
  rcases hst with hs | hs
  · have := hlt hs; omega
  · omega

/-- the table declares the queried key exactly once, with the queried value -/
def DeclaresSame (qf : Feat) (t : List Feat) : Prop :=
  match group qf.key t with
  | [f] =>
    if isLangKey qf.key then
      qf.val.tagOf ≠ [] ∧ qf.val.tagOf.map lowerStr = f.val.tagOf.map lowerStr ∧ starRange f.val.tagOf = false
    else cmpCI qf.val.strOf f.val.strOf = .eq
  | _ => False

instance (qf : Feat) (t : List Feat) : Decidable (DeclaresSame qf t) := by
  unfold DeclaresSame; split <;> infer_instance

theorem contrib_of_declaresSame (qf : Feat) (t : List Feat) (h : DeclaresSame qf t) :
    contrib strictW qf t = POS_MATCH := by
  unfold DeclaresSame at h
  split at h
  · next f hg =>
    by_cases hl : isLangKey qf.key = true
    · rw [if_pos hl] at h
      exact (lang_key_contribution strictW strictW_sane qf t hl).2.1 f hg h.1 h.2.1 h.2.2
    · rw [if_neg hl] at h
      rw [contrib_of_ne_nil strictW qf (by simp [hg]), if_neg hl, hg]
      exact strBest_single_same strictW strictW_sane _ _ _ h
  · exact absurd h id

theorem exact_score (q t : List Feat) (hq : KeysStrictSorted q) (ht : KeysSorted t)
    (hsame : ∀ qf ∈ q, DeclaresSame qf t) :
    matchFeatureLists q t = POS_MATCH * q.length + EXTRA * extraKeys q t := by
  rw [score_eq_sum q t hq ht, if_neg Bool.false_ne_true, keySum,
    sum_map_const _ POS_MATCH q (fun qf hqf => contrib_of_declaresSame qf t (hsame qf hqf))]
  rfl

/-- `hx` leaves room for one key of the table that the query does not mention: the `region` that `analyzeTable`
    adds by default -/
theorem exact_found (q : List Feat) (t : Table) (idx : List Table) (hq : KeysStrictSorted q) (ht : KeysSorted t.feats)
    (hsame : ∀ qf ∈ q, DeclaresSame qf t.feats) (hx : extraKeys q t.feats ≤ 1) (hne : q ≠ [])
    (hin : t ∈ idx) :
    score q t = 10 * q.length - extraKeys q t.feats ∧ 10 * (q.length : Int) - 1 ≤ score q t ∧ 0 < score q t ∧
    t.name ∈ findTables q idx ∧ findTable q idx ≠ none := by
  have hlen := List.length_pos_iff.2 hne
  have hsc : score q t = 10 * q.length - extraKeys q t.feats := by
    rw [score, exact_score q t.feats hq ht hsame, show POS_MATCH = 10 from rfl, show EXTRA = -1 from rfl]; omega
  have hpos : 0 < score q t := by omega
  have hmem : t.name ∈ findTables q idx := (mem_findTables_iff q idx t.name).2 ⟨t, hin, rfl, hpos⟩
  exact ⟨hsc, by omega, hpos, hmem, fun hnone => List.ne_nil_of_mem hmem ((findTable_none_iff q idx).1 hnone)⟩

theorem index_order_irrelevant (q : List Feat) (idx idx' : List Table) (t : Table)
    (hperm : idx'.Perm idx) (ht : t ∈ idx) (hpos : 0 < score q t)
    (hmax : ∀ u ∈ idx, u ≠ t → score q u < score q t) :
    findTable q idx' = some t.name := by
  have ht' := hperm.mem_iff.2 ht
  rcases findTable_cases q idx' with ⟨_, h⟩ | ⟨u, hu, he, _, hmax'⟩
  · have := h t ht'; omega
  · -- the maximiser `u` is `t`: a different table scores less than `t`, which scores at most what `u` does
    by_cases hut : u = t
    · rw [he, hut]
    · have := hmax u (hperm.mem_iff.1 hu) hut
      have := hmax' t ht'
      omega

theorem index_order_irrelevant_none (q : List Feat) (idx idx' : List Table)
    (hperm : idx'.Perm idx) (hnone : findTable q idx = none) : findTable q idx' = none := by
  rw [findTable_none_iff_no_positive] at hnone ⊢
  exact fun t ht => hnone t (hperm.mem_iff.1 ht)

theorem dominating_is_returned (q : List Feat) (idx idx' : List Table) (t : Table)
    (hq : KeysStrictSorted q) (hs : ∀ u ∈ idx, KeysSorted u.feats)
    (hperm : idx'.Perm idx) (ht : t ∈ idx) (hpos : 0 < score q t)
    (hdom : ∀ u ∈ idx, u ≠ t →
      (∀ qf ∈ q, contrib strictW qf u.feats ≤ contrib strictW qf t.feats) ∧
      extraKeys q t.feats ≤ extraKeys q u.feats ∧
      ((∃ qf ∈ q, contrib strictW qf u.feats < contrib strictW qf t.feats) ∨
        extraKeys q t.feats < extraKeys q u.feats)) :
    findTable q idx' = some t.name := by
  apply index_order_irrelevant q idx idx' t hperm ht hpos
  intro u hu hne
  obtain ⟨h1, h2, h3⟩ := hdom u hu hne
  exact dominance q t.feats u.feats hq (hs t ht) (hs u hu) h1 h2 h3

/-- the hypothesis the code forces: no two features with the same key and
    (case-insensitively) the same value -/
def NoDupFeatures (l : List Feat) : Prop := l.Pairwise (fun a b => cmpFeatures a b ≠ .eq)

instance (l : List Feat) : Decidable (NoDupFeatures l) := by unfold NoDupFeatures; infer_instance

/-- `l` is ANY feature list, `f` its feature with key `key` that has the smallest line number and is not a default
    (line −1): `lou_getTableInfo` on the sorted `l` returns its value.  For a file, `analyzeTable` sorts
    `l = addDefaults s`, where `s` holds the parser's features; the statement does not mention `analyzeTable`, and no
    theorem says that the smallest line number there is the first occurrence (`parser_lines_descending` gives the
    order of the numbers only). -/
theorem tableInfo_first (l : List Feat) (key : Str) (f : Feat) (hnodup : NoDupFeatures l)
    (hf : f ∈ l) (hk : cmpCI f.key key = .eq) (hfl : 0 ≤ f.line)
    (hfirst : ∀ g ∈ l, cmpCI g.key key = .eq → g = f ∨ f.line < g.line) :
    getTableInfoFeats (listSort cmpFeatures l) key = some (infoValue key f.val) := by
  have hp := listSort_perm cmpFeatures hnodup
  rw [getTableInfoFeats, infoLoop_first key f hk hfl _ (listSort_cmpFeatures_sorted l)
    (fun g hg => hfirst g (hp.mem_iff.1 hg)) none (-1) (.inl ⟨hp.mem_iff.2 hf, .inl (by decide)⟩)]
  rfl

/-- the features the parser collects (the C list, before the defaults with line −1 are added) have line numbers that
    do not increase along the list and lie between 1 and some `m`; that a feature's number is that of the line it was
    read from is not stated -/
theorem parser_lines_descending (activeOnly : Bool) (bytes : List Nat) (s' : AState)
    (h : analyzeLines activeOnly (splitLines (decodeFile bytes).1 []) 1 {} = .done s') :
    ∃ m, LinesDescending m s'.feats :=
  analyzeLines_lines activeOnly _ 1 (by decide) {} s' h ⟨List.Pairwise.nil, fun _ h => by cases h⟩

theorem tableInfo_none (l : List Feat) (key : Str) (h : ∀ g ∈ l, cmpCI g.key key ≠ .eq) :
    getTableInfoFeats (listSort cmpFeatures l) key = none := by
  rw [getTableInfoFeats, infoLoop_none key _ (fun g hg => h g (mem_of_mem_listSort cmpFeatures hg))]
  rfl

theorem isLanguageTagN_of_lt (key : Str) {len : Nat} (hlen : kLanguage.length < len) :
    isLanguageTagN key len = isLanguageTagN key key.length := by
  replace hlen : 8 < len := hlen
  -- `n = min key.length len` characters are compared; an `n` beyond the longest name is the length of no name
  have long : ∀ len, 8 < min key.length len → isLanguageTagN key len = false := fun len h => by
    have h8 : (min key.length len == 8) = false := beq_false_of_ne (by omega)
    have h6 : (min key.length len == 6) = false := beq_false_of_ne (by omega)
    simp only [isLanguageTagN, show kLanguage.length = 8 from rfl, show kRegion.length = 6 from rfl,
      show kLocale.length = 6 from rfl, h8, h6, Bool.false_and, Bool.or_self]
  by_cases h : key.length ≤ len
  · unfold isLanguageTagN; rw [Nat.min_self, Nat.min_eq_left h]
  · rw [long _ (by omega), long _ (by omega)]

/-- the parsers (`isLanguageTag(k, keySize)`) and the readers (`isLanguageTag(k, MAXSTRING)`)
    agree on every key: a value is stored as a subtag list exactly when it is read as one
    (no type confusion: the fix of finding C18-F3) -/
theorem langTagParsed_eq_isLangKey (key : Str) : langTagParsed key = isLangKey key :=
  (isLanguageTagN_of_lt key (by decide)).symm

/-- the three names of the model are the ones extracted from `isLanguageTag` in the C source -/
theorem lang_keys_extracted : LANG_KEYS = [kLanguage, kRegion, kLocale] := rfl

/-- so a proper prefix of one of the three words is an ordinary key everywhere -/
example : langTagParsed [108] = false ∧ isLangKey [108] = false ∧                      -- "l"
    langTagParsed [114, 101, 103] = false ∧ langTagParsed [108, 111, 99] = false ∧     -- "reg", "loc"
    langTagParsed [76, 65, 78, 71, 85, 65, 71, 69] = true ∧ isLangKey kLocale = true := by decide +kernel  -- "LANGUAGE"

/-- "x" "a" "b" "en" "de" "ucs2" "ucs4" as bytes -/
abbrev kx : Str := [120]
abbrev va : Str := [97]
abbrev vb : Str := [98]
abbrev ven : Str := [101, 110]
abbrev vde : Str := [100, 101]
abbrev ucs2 : Str := [117, 99, 115, 50]
abbrev ucs4 : Str := [117, 99, 115, 52]

/-- lines 1..3 = x:a, x:b, x:a (the C list is newest first): the first occurrence has value `a`, the answer is `b` -/
example :
    let l : List Feat := [⟨kx, .str va, 3⟩, ⟨kx, .str vb, 2⟩, ⟨kx, .str va, 1⟩]
    ¬ NoDupFeatures l ∧ getTableInfoFeats (listSort cmpFeatures l) kx = some vb := by decide +kernel

theorem tableInfo_first_fails_with_dup :
    ¬ ∀ (l : List Feat) (key : Str) (f : Feat), f ∈ l → cmpCI f.key key = .eq → 0 ≤ f.line →
      (∀ g ∈ l, cmpCI g.key key = .eq → g = f ∨ f.line < g.line) →
      getTableInfoFeats (listSort cmpFeatures l) key = some (infoValue key f.val) := by
  intro h
  have := h [⟨kx, .str va, 3⟩, ⟨kx, .str vb, 2⟩, ⟨kx, .str va, 1⟩] kx ⟨kx, .str va, 1⟩
    (by decide) (by decide) (by decide) (by decide)
  revert this
  decide +kernel

/-- the same on the bytes of the file `#+x:a\n#+x:b\n#+x:a\n`: lou_getTableInfo(file, "x") = "b" -/
theorem tableInfo_first_fails_on_bytes :
    getTableInfo [35, 43, 120, 58, 97, 10, 35, 43, 120, 58, 98, 10, 35, 43, 120, 58, 97, 10] kx = (some vb, 0) := by
  decide +kernel

/-- non-vacuity of tableInfo_first: `#+x:b\n#+x:a\n` answers `b`, through the theorem's hypotheses -/
example :
    let l : List Feat := [⟨kx, .str va, 2⟩, ⟨kx, .str vb, 1⟩]
    NoDupFeatures l ∧ getTableInfoFeats (listSort cmpFeatures l) kx = some vb ∧
    getTableInfo [35, 43, 120, 58, 98, 10, 35, 43, 120, 58, 97, 10] kx = (some vb, 0) := by decide +kernel

theorem exact_score_fails_with_two_values :
    let q : List Feat := [⟨kUnicodeRange, .str ucs4, 1⟩]
    let t : List Feat := [⟨kUnicodeRange, .str ucs2, 1⟩, ⟨kUnicodeRange, .str ucs4, 2⟩]
    KeysStrictSorted q ∧ KeysSorted t ∧
    (∀ qf ∈ q, ∃ f ∈ group qf.key t, cmpCI qf.val.strOf f.val.strOf = .eq) ∧
    matchFeatureLists q t = 9 ∧ POS_MATCH * q.length + EXTRA * extraKeys q t = 10 := by decide +kernel

/-- the queried language and 104 copies of one other: no list that `analyzeTable` returns (see the header) -/
def manyLanguages : List Feat :=
  ⟨kLanguage, .tag [ven], 1⟩ :: (List.replicate 104 ⟨kLanguage, .tag [vde], 2⟩ ++
    [⟨kRegion, .tag [ven], -1⟩, ⟨kUnicodeRange, .str ucs2, -1⟩])

theorem exact_found_fails_with_many_languages :
    let q : List Feat := [⟨kLanguage, .tag [ven], 2⟩, ⟨kUnicodeRange, .str ucs2, 1⟩]
    KeysStrictSorted q ∧ KeysSorted manyLanguages ∧
    (∀ qf ∈ q, ∃ f ∈ group qf.key manyLanguages, cmpFeatures qf f = .eq) ∧
    matchFeatureLists q manyLanguages = -1 ∧
    findTables q [⟨[116], manyLanguages⟩] = [] := by decide +kernel

/-- non-vacuity of exact_found, from file bytes: `#+language:en\n#+x:a\n` and the query
    `language:en x:a`: three query keys (unicode-range is defaulted), one extra key
    (the defaulted region), quotient 29 = 10·3 − 1 -/
def exTable : List Feat := (analyzeTable [35, 43, 108, 97, 110, 103, 117, 97, 103, 101, 58, 101, 110, 10, 35, 43, 120, 58, 97, 10] true).1
def exQuery : List Feat := (parseQuery [108, 97, 110, 103, 117, 97, 103, 101, 58, 101, 110, 32, 120, 58, 97]).1

example : exQuery.length = 3 ∧ extraKeys exQuery exTable = 1 ∧ matchFeatureLists exQuery exTable = 29 ∧
    findTable exQuery [⟨[116], exTable⟩] = some [116] := by decide +kernel

example : ∀ qf ∈ exQuery, DeclaresSame qf exTable := by decide +kernel

/-- index_order_irrelevant needs `0 < score`: a table that dominates the other one with a quotient
    that is not positive (−10 against −90) is not returned -/
theorem dominating_but_not_positive :
    let q : List Feat := [⟨kUnicodeRange, .str ucs2, 1⟩, ⟨kx, .str va, 2⟩]
    let t1 : Table := ⟨[49], [⟨kUnicodeRange, .str ucs2, -1⟩]⟩                      -- x absent: 10 − 20
    let t2 : Table := ⟨[50], [⟨kUnicodeRange, .str ucs2, -1⟩, ⟨kx, .str vb, 1⟩]⟩    -- x:b: 10 − 100
    score q t2 < score q t1 ∧ findTable q [t1, t2] = none ∧ findTable q [t2, t1] = none := by decide +kernel

/-- same value beats absent beats other value, in three orders of the index -/
example :
    let q : List Feat := [⟨[103], .str va, 3⟩, ⟨kUnicodeRange, .str ucs2, 1⟩, ⟨kx, .str va, 2⟩]
    let t1 : Table := ⟨[49], [⟨[103], .str va, 1⟩, ⟨kUnicodeRange, .str ucs2, -1⟩, ⟨kx, .str va, 2⟩]⟩
    let t2 : Table := ⟨[50], [⟨[103], .str va, 1⟩, ⟨kUnicodeRange, .str ucs2, -1⟩]⟩
    let t3 : Table := ⟨[51], [⟨[103], .str va, 1⟩, ⟨kUnicodeRange, .str ucs2, -1⟩, ⟨kx, .str vb, 2⟩]⟩
    score q t1 = 30 ∧ score q t2 = 0 ∧ score q t3 = -80 ∧
    findTable q [t1, t2, t3] = some [49] ∧ findTable q [t3, t2, t1] = some [49] ∧ findTable q [t2, t1, t3] = some [49] ∧
    findTables q [t3, t1, t2] = [[49]] := by decide +kernel

/-- ties: lou_findTable keeps the FIRST maximum of the C list (= the table given LAST to
    lou_indexTables) while lou_findTables lists a later-walked table first -/
example :
    let q : List Feat := [⟨kUnicodeRange, .str ucs2, 1⟩]
    let t1 : Table := ⟨[49], [⟨kUnicodeRange, .str ucs2, -1⟩]⟩
    let t2 : Table := ⟨[50], [⟨kUnicodeRange, .str ucs2, -1⟩]⟩
    findTable q [t1, t2] = some [49] ∧ findTable q [t2, t1] = some [50] ∧
    findTables q [t1, t2] = [[50], [49]] := by decide +kernel

end Lou.C18
