/-
  C17 — hyphenation equals the pattern-matching semantics of its dictionary.

  The property: for every word of fewer than 100 characters, lou_hyphenate in text mode marks
  position k with '1' exactly where the largest digit contributed at that point is odd (k not the
  first letter of a run of letters): reading the dot-delimited, lower-cased run letter by letter,
  the contribution at each letter is the digit string of the longest suffix of the text read so
  far that is a prefix of some dictionary pattern, provided that suffix is itself a pattern; '2'
  after a hyphen character between letters and '0' elsewhere; in text and braille mode exactly
  inlen characters from {'0','1','2'} and a NUL are written; the return value is 0 when no
  hyphenation table is loaded or the word is too long.

  Text mode is proved in full: hyphenateWord for all pattern lists and all words, lou_hyphenate
  for every text it accepts.  Braille mode is proved for the format and the write range only,
  over a back-translation result that is an input of the model.  Two hypotheses, the first
  forced (the unrestricted statement is false of the code), the second needed by the proof:
    * `WFPats` — no digit-only line (`1`): compileHyphenation stores its digit as the pattern of
      state 0, which hyphenateWord never consults (a pattern is applied at `stateFound`, after a
      transition, and no transition leads to state 0), while by the property the empty suffix is
      a pattern and contributes at every point: `digit_only_line_ignored`.
    * `FitsStates` — 0xffffffff (`DEFAULTSTATE`) doubles as "not found" in hyphenHashLookup and as
      the fallback of state 0, so the model's dictionary must have at most 0xffffffff states.  That
      is the limit of the `unsigned int` fields `fallbackState` and `newState`; `numStates`,
      `HyphenHashEntry.val` and the result of hyphenGetNewState are `int`, which the C exhausts
      first.  (Until liblouis commit 5522f21e the fields were 16 bit wide and hyph_hu_HU.dic,
      138663 states, got truncated state numbers; the check keeps the signature
      `C17:state-number-overflow`.)
  Not a hypothesis: a digit in front of a leading '.' (`1.a`, finding F5).  Until liblouis
  commit 0c404269 hyphenateWord computed patternOffset = −1 for it and read/wrote hyphens[−1];
  since then the loop starts at k = −patternOffset: the digit has no position in the word, which
  is what `specDigits` says anyway (positions are 0 … n−1).  `leading_digit_dot_in_range`.
-/
import LouModel.Hyph
import LouProofs.Lemmas.Hyph
import LouProofs.Lemmas.HyphWalk
import LouProofs.Lemmas.HyphCompile
import LouProofs.Lemmas.HyphWrap

namespace Lou.C17
open Lou.Hyph List

/-- every state number fits an `unsigned int` and differs from the sentinel (0xffffffff is `DEFAULTSTATE`) -/
def FitsStates (pats : List Pat) : Prop := (compileDict pats).size ≤ 0xffffffff

instance (pats : List Pat) : Decidable (FitsStates pats) := by unfold FitsStates; infer_instance

/-- hyphenateWord over the compiled dictionary computes exactly the property: no out-of-range
    access, the fallback loop ends, and every position holds the largest digit of the
    longest-suffix matching rule. -/
theorem hyph_refines_spec (pats : List Pat) (wf : WFPats pats) (fits : FitsStates pats)
    (lower : Nat → Nat) (w : List Nat) :
    hyphenateWordX (compileDict pats) lower w = .ok (specDigits pats lower w) := by
  have key := walk_refines (compileDict_ok pats fits) wf lower w
  rw [hyphenateWordX, key.1, key.2]

/-- the states compileHyphenation creates are exactly the prefixes of the patterns' letter
    strings, state 0 the empty one (`keyFn`: the string a state stands for) -/
theorem hyph_states_are_prefixes (pats : List Pat) (hne : pats ≠ []) (fits : FitsStates pats) :
    let d := compileDict pats
    let key := keyFn (compileC pats)
    key 0 = [] ∧
    (∀ i, i < d.size → isPatPrefix pats (key i) = true) ∧
    (∀ s, isPatPrefix pats s = true → ∃ i, i < d.size ∧ key i = s) ∧
    (∀ i j, i < d.size → j < d.size → key i = key j → i = j) := by
  have ok := compileDict_ok pats fits
  refine ⟨ok.key0, fun i hi => ?_, ok.all, ok.inj⟩
  by_cases h : keyFn (compileC pats) i = []
  · rw [h]; exact isPatPrefix_nil hne
  · exact ok.isP i hi h

/-- fallback = longest proper suffix that is a state (root: the sentinel) -/
theorem hyph_fallback_correct (pats : List Pat) (hne : pats ≠ []) (fits : FitsStates pats) :
    let d := compileDict pats
    let key := keyFn (compileC pats)
    (∀ s, d[0]? = some s → s.fallback = DEFAULTSTATE) ∧
    (∀ i s, d[i]? = some s → i ≠ 0 → s.fallback < d.size ∧
      longestSuffix (isPatPrefix pats) (key i).tail = some (key s.fallback)) := by
  have ok := compileDict_ok pats fits
  refine ⟨ok.fb0, fun i s hs hi => ?_⟩
  obtain ⟨a, b⟩ := ok.fb i s hs hi
  exact ⟨a, by rw [b]; exact longestSuffix_eq_lssD (isPatPrefix_nil hne) _⟩

/-- the classic invariant: after reading any text `u` the state of the walk stands for the
    longest suffix of `u` that is a prefix of a pattern -/
theorem hyph_state_invariant (pats : List Pat) (hne : pats ≠ []) (wf : WFPats pats) (fits : FitsStates pats)
    (n : Nat) (u : List Nat) :
    let st := (walkFrom (compileDict pats) n u 0 ⟨List.replicate n 0, 0, 0, none⟩).state
    st < (compileDict pats).size ∧
    longestSuffix (isPatPrefix pats) u = some (keyFn (compileC pats) st) := by
  have fin := walk_inv (compileDict_ok pats fits) wf n u
  exact ⟨fin.st, by rw [fin.kst]; exact longestSuffix_eq_lssD (isPatPrefix_nil hne) u⟩

/-- termination of the fallback loop, amortised: over a whole word of `n` letters the inner
    `while (1)` of hyphenateWord runs at most `2·(n+2)` times (every fallback strictly shortens
    the prefix the state stands for, every letter lengthens it by at most one); in particular the
    fuel of the model never runs out (the `.ok` of `hyph_refines_spec`).  The count is the
    one hook H2 (site 6) reports for the implementation. -/
theorem hyph_walk_bound (pats : List Pat) (wf : WFPats pats) (fits : FitsStates pats)
    (lower : Nat → Nat) (w : List Nat) :
    (hyphenateWalk (compileDict pats) lower w).ticks ≤ 2 * (w.length + 2) := by
  have := (walk_inv (compileDict_ok pats fits) wf w.length (prepWord lower w)).tk
  rw [show (prepWord lower w).length = w.length + 2 by simp [prepWord]] at this
  rw [hyphenateWalk]
  omega

/-- lou_hyphenate in text mode, for ANY automaton in the table and any character classes:
    it returns 0 exactly when no dictionary is loaded or `inlen ≥ 100`, and then leaves the
    array alone; otherwise it returns 1, writes nothing beyond index `inlen`, and leaves
    exactly `inlen` characters from {'0','1','2'} followed by a NUL. -/
theorem hyphenate_format (dict : Option Dict) (cl : Classes) (inbuf init : List Nat)
    (hinit : init.length = inbuf.length + 1) :
    ((louHyphenateText dict cl inbuf init).1 = 0 ↔ (dict = none ∨ inbuf.length ≥ HYPHSTRING)) ∧
    ((louHyphenateText dict cl inbuf init).1 = 0 → (louHyphenateText dict cl inbuf init).2 = ⟨init, false⟩) ∧
    ((louHyphenateText dict cl inbuf init).1 ≠ 0 →
      (louHyphenateText dict cl inbuf init).1 = 1 ∧ Fmt inbuf.length (louHyphenateText dict cl inbuf init).2) := by
  cases dict with
  | none => simp [louHyphenateText_refused cl init (Or.inl rfl)]
  | some d =>
    by_cases c : inbuf.length ≥ HYPHSTRING
    · simp [louHyphenateText_refused cl init (Or.inr c), c]
    · obtain ⟨b, hb, f⟩ := textHyphens_fmt d cl inbuf init hinit (add_three_le_MAXSTRING (Nat.le_of_not_le c))
      simp only [louHyphenateText_accepted d cl init (Nat.lt_of_not_le c), hb]
      exact ⟨⟨fun h => (by cases h), fun h => h.elim (fun h => (by cases h)) (fun h => absurd h c)⟩,
        fun h => (by cases h), fun _ => ⟨trivial, f⟩⟩

/-- text mode writes only `hyphens[0..inlen]` -/
theorem hyphenate_writes (dict : Option Dict) (cl : Classes) (inbuf init : List Nat)
    (hinit : init.length = inbuf.length + 1) :
    (louHyphenateText dict cl inbuf init).2.oob = false ∧
    (louHyphenateText dict cl inbuf init).2.data.length = inbuf.length + 1 := by
  obtain ⟨_, h0, h1⟩ := hyphenate_format dict cl inbuf init hinit
  by_cases c : (louHyphenateText dict cl inbuf init).1 = 0
  · rw [h0 c]; exact ⟨rfl, hinit⟩
  · exact ⟨(h1 c).2.oob, (h1 c).2.len⟩

/-- the property for text mode: over the compiled dictionary, for any character classes,
    lou_hyphenate returns 1 and leaves exactly `specText`, which is the property read position
    by position (`specChar`), then the NUL; nothing else is written. -/
theorem hyphenate_text_spec (pats : List Pat) (wf : WFPats pats) (fits : FitsStates pats)
    (cl : Classes) (inbuf init : List Nat) (hinit : init.length = inbuf.length + 1)
    (hlt : inbuf.length < HYPHSTRING) :
    louHyphenateText (some (compileDict pats)) cl inbuf init = (1, ⟨specText pats cl inbuf, false⟩) := by
  have h := textHyphens_eq (compileDict pats) cl inbuf init hinit (add_three_le_MAXSTRING (Nat.le_of_lt hlt))
    (fun w m => specDigitAt pats (prepWord cl.lower w) m)
    -- the digits of the walk invariant at the end of the word: `specUpTo` over the whole text is `specDigitAt`
    fun w => (walk_inv (compileDict_ok pats fits) wf w.length (prepWord cl.lower w)).hy
  rw [louHyphenateText_accepted _ cl init hlt, h, specText, specChar_eq]

/-- braille mode writes only `hyphens[0..inlen]` of the caller's array (the temporary
    `textHyphens` is not observed by `louHyphenateBraille`) -/
theorem hyphenate_writes_braille (dict : Option Dict) (cl : Classes) (inlen : Nat)
    (bt : Option (List Nat × List Int)) (init : List Nat) (hinit : init.length = inlen + 1) :
    (louHyphenateBraille dict cl inlen bt init).2.oob = false ∧
    (louHyphenateBraille dict cl inlen bt init).2.data.length = inlen + 1 := by
  cases dict with
  | none => rw [louHyphenateBraille_refused cl bt init (Or.inl rfl)]; exact ⟨rfl, hinit⟩
  | some d =>
    by_cases c : inlen ≥ HYPHSTRING
    · rw [louHyphenateBraille_refused cl bt init (Or.inr c)]; exact ⟨rfl, hinit⟩
    · rw [louHyphenateBraille_accepted d cl bt init (Nat.lt_of_not_le c)]
      split
      · exact ⟨rfl, hinit⟩
      · split
        · exact ⟨rfl, hinit⟩
        · rw [init_buf init inlen hinit]
          refine mapLoop_inv inlen (fun b => b.oob = false ∧ b.data.length = inlen + 1) _ _ _ ?_ ⟨rfl, by simp⟩
          intro e _ b h0 h1 q
          have w := write_in b e.2.toNat e.1 (by rw [q.2]; omega)
          exact ⟨w.oob.trans q.1, w.len.trans q.2⟩

/-- braille mode, format clause — PARTIAL: needs what the back-translation guarantees (C07:
    every `inputPos` entry is below `inlen`; `textLen ≤ 100` entries).  Without `inputPos < inlen`
    the statement is false of the code: `braillePos > inlen` lets `braillePos == inlen` through,
    which overwrites the terminating NUL (`braille_nul_overwritten`). -/
theorem hyphenate_braille_format_partial (dict : Option Dict) (cl : Classes) (inlen : Nat)
    (text : List Nat) (ip : List Int) (init : List Nat) (hinit : init.length = inlen + 1)
    (htext : text.length ≤ HYPHSTRING) (hip : ip.length ≤ text.length) (hlt : ∀ p ∈ ip, p < (inlen : Int)) :
    ((louHyphenateBraille dict cl inlen (some (text, ip)) init).1 = 0 ↔ (dict = none ∨ inlen ≥ HYPHSTRING)) ∧
    ((louHyphenateBraille dict cl inlen (some (text, ip)) init).1 ≠ 0 →
      (louHyphenateBraille dict cl inlen (some (text, ip)) init).1 = 1 ∧
      Fmt inlen (louHyphenateBraille dict cl inlen (some (text, ip)) init).2) := by
  cases dict with
  | none => simp [louHyphenateBraille_refused cl _ init (Or.inl rfl)]
  | some d =>
    by_cases c : inlen ≥ HYPHSTRING
    · simp [louHyphenateBraille_refused cl _ init (Or.inr c), c]
    · obtain ⟨th, hth, fth⟩ := textHyphens_fmt d cl text (List.replicate (text.length + 1) 0) (by simp)
        (add_three_le_MAXSTRING htext)
      simp only [louHyphenateBraille_accepted d cl _ init (Nat.lt_of_not_le c), hth, init_buf init inlen hinit]
      refine ⟨⟨fun h => (by cases h), fun h => h.elim (fun h => (by cases h)) (fun h => absurd h c)⟩, fun _ => ⟨trivial, ?_⟩⟩
      have f0 : Fmt inlen ⟨List.replicate inlen 48 ++ [0], false⟩ := by
        have := fmt_map inlen (fun _ => 48) (fun _ => Or.inl rfl)
        rwa [map_const', length_range] at this
      refine mapLoop_inv inlen (Fmt inlen) _ _ _ (fun e he b h0 _ f => ?_) f0
      -- the digit comes from the text-mode array, the position is below `inlen`
      obtain ⟨j, hj, rfl⟩ := List.mem_iff_getElem.mp he
      obtain ⟨hj1, hj2⟩ := Nat.lt_min.mp (List.length_zip ▸ hj)
      rw [List.getElem_zip] at h0 ⊢
      have hc := fth.chars j (Nat.lt_of_lt_of_le hj2 hip)
      rw [List.getD_eq_getElem?_getD, List.getElem?_eq_getElem hj1] at hc
      have hp := hlt _ (List.getElem_mem hj2)
      exact f.write (by omega) hc

/-- `inputPos[k] == inlen` passes the range test `braillePos > inlen || braillePos < 0` and the
    NUL at `hyphens[inlen]` is replaced by a digit character -/
theorem braille_nul_overwritten :
    (louHyphenateBraille (some #[{}]) ⟨fun _ => true, id, fun _ => false⟩ 1 (some ([97], [1])) [117, 117]).2.data
      = [48, 48] := by decide +kernel

/-- finding F5, repaired in liblouis: the pattern `1.a3` on `ab` — the `1` in front of the leading
    dot has no position in the word and is skipped, the `3` lands in front of `b`; no
    out-of-range access -/
theorem leading_digit_dot_in_range :
    (hyphenateWalk (compileDict [⟨1, [(46, 0), (97, 3)]⟩]) id [97, 98]).fault = none ∧
    hyphenateWord (compileDict [⟨1, [(46, 0), (97, 3)]⟩]) id [97, 98] = [0, 3] ∧
    specDigits [⟨1, [(46, 0), (97, 3)]⟩] id [97, 98] = [0, 3] := by decide +kernel

example : WFPats [⟨1, [(46, 0), (97, 3)]⟩] := by decide +kernel

/-- the max loop of hyphenateWord touches no negative index, whatever the pattern string and
    wherever it is applied (`applyPat` is the one place where the walk can raise `negOffset`) -/
theorem hyphenateWord_no_negative_index (h : List Nat) (i : Nat) (s : List Nat) :
    (applyPat h h.length i s).2 = false := (applyPat_spec h h.length i s).1

/-- a digit-only line `1` next to `a1b`: the property gives 1 at both points of `ab`, the
    code ignores the line -/
theorem digit_only_line_ignored :
    hyphenateWord (compileDict [⟨1, []⟩, ⟨0, [(97, 1), (98, 0)]⟩]) id [97, 98] = [0, 1] ∧
    specDigits [⟨1, []⟩, ⟨0, [(97, 1), (98, 0)]⟩] id [97, 98] = [1, 1] := by decide +kernel

example : ¬ WFPats [⟨1, []⟩, ⟨0, [(97, 1), (98, 0)]⟩] := by decide +kernel

/-- non-vacuity: a dictionary with overlapping patterns, leading/trailing dots and duplicate
    lines satisfies the hypotheses, and the theorem gives a non-trivial result on it -/
def demoPats : List Pat :=
  [⟨0, [(97, 1), (98, 0)]⟩, ⟨0, [(46, 0), (97, 0), (98, 2)]⟩, ⟨0, [(98, 1), (99, 0)]⟩, ⟨1, [(99, 0)]⟩,
   ⟨0, [(97, 0), (98, 3), (99, 4)]⟩, ⟨0, [(97, 2), (98, 0)]⟩, ⟨0, [(99, 5), (46, 0)]⟩]

theorem demo_ok : WFPats demoPats ∧ FitsStates demoPats := by decide +kernel
example : WFPats demoPats ∧ FitsStates demoPats := demo_ok
theorem demo_spec : specDigits demoPats id [99, 97, 98, 99, 99] = [1, 0, 2, 3, 4] := by decide +kernel
example : hyphenateWordX (compileDict demoPats) id [99, 97, 98, 99, 99] = .ok [1, 0, 2, 3, 4] := by
  rw [← demo_spec]; exact hyph_refines_spec demoPats demo_ok.1 demo_ok.2 id _

end Lou.C17
