/-
  C12 — `compile_consistent`: every logical table the compile model produces for entries of the fragment F0′ — after any
  prefix of the entries (`compileUnfinalised`, which is also the state after run-time additions, see C15 `add_eq_append`)
  and after finalisation (`compile`) — satisfies ALL rule clauses of `TableConsistent`.

  Induction over the compile steps with one invariant, `CInvF`, that holds of every table the model produces, whatever the
  entries; `TableConsistent` and what C05 states of the chains (`chain_sorted`, the hypothesis `FwdWF` of
  `select_refines`) are read off it.  Its chain clauses (`ChainOK`, `DefOK`) are stated relative to a lookup function, and
  the invariant (`CInvP`) relative to a bound on the indices filed in each direction, so that each step — registering the
  rule, linking it forward, linking it backward — carries it on by monotonicity except in the one chain it inserts into.

  Hypothesis of `compile_consistent` forced by the model: no entry has opcode `context` (the compile model has no
  multipass compiler; a `context` entry would be filed like an ordinary rule, which is not what the C code does).
-/
import LouModel.Image
import LouProofs.Lemmas.Compile
import LouProofs.C12

namespace Lou.C12
open Lou Lou.Gen Lou.Compile Lou.Chain Lou.Image

/-- a chain of rule indices: every index resolves under `look` to a rule with property `M`, the resolved chain is ordered
    by `R`, no index twice.  `look` is always some `t.rule?`; it is a parameter so that registering a rule is
    monotonicity (`chainOK_mono`).  For `t.rule?` the clause `r.idx = i` says nothing new (`Table.rule?_idx`); it is what
    `C05.FwdWF.res` and `chain_sorted` state -/
def ChainOK (look : Nat → Option Rule) (M : Rule → Prop) (R : Rule → Rule → Prop) (chain : List Nat) : Prop :=
  (∀ i ∈ chain, ∃ r, look i = some r ∧ r.idx = i ∧ M r) ∧ (chain.filterMap look).Pairwise R ∧ chain.Nodup

section
variable {look : Nat → Option Rule} {M : Rule → Prop} {R : Rule → Rule → Prop} {chain : List Nat} (h : ChainOK look M R chain)
include h
theorem ChainOK.members : ∀ i ∈ chain, ∃ r, look i = some r ∧ r.idx = i ∧ M r := h.1
theorem ChainOK.ordered : (chain.filterMap look).Pairwise R := h.2.1
theorem ChainOK.nodup : chain.Nodup := h.2.2
end

theorem chainOK_nil (look : Nat → Option Rule) (M : Rule → Prop) (R : Rule → Rule → Prop) : ChainOK look M R [] :=
  ⟨nofun, .nil, .nil⟩

theorem chainOK_mono {look look' : Nat → Option Rule} {M M' : Rule → Prop} {R : Rule → Rule → Prop} {chain : List Nat}
    (hl : ∀ i r, look i = some r → look' i = some r) (hM : ∀ r, M r → M' r) (h : ChainOK look M R chain) :
    ChainOK look' M' R chain := by
  obtain ⟨h1, h2, h3⟩ := h
  refine ⟨fun i hi => ?_, ?_, h3⟩
  · obtain ⟨r, a, b, c⟩ := h1 i hi
    exact ⟨r, hl i r a, b, hM r c⟩
  · rw [filterMap_congr (f := look') (g := look) fun i hi => ?_]
    · exact h2
    · obtain ⟨r, a, _⟩ := h1 i hi
      rw [a, hl i r a]

theorem chainOK_weaken (look : Nat → Option Rule) (M M' : Rule → Prop) (R : Rule → Rule → Prop) (chain : List Nat)
    (hM : ∀ r, M r → M' r) (h : ChainOK look M R chain) : ChainOK look M' R chain :=
  chainOK_mono (fun _ _ h => h) hM h

theorem mem_insR_all (stop : Rule → Bool) (new : Rule) (l : List Rule) (P : Rule → Prop) (hn : P new) (hl : ∀ o ∈ l, P o) :
    ∀ o ∈ insR stop new l, P o := by
  intro o ho
  rcases (mem_insR stop new o l).mp ho with rfl | ho
  · exact hn
  · exact hl o ho

theorem chainOK_insert {stop : Rule → Bool} {t : Table} {new : Rule} {M : Rule → Prop} {R : Rule → Rule → Prop}
    {chain : List Nat} (h : ChainOK t.rule? (fun r => r.idx < new.idx ∧ M r) R chain)
    (hreg : t.rule? new.idx = some new) (hM : M new)
    (hR : ∀ rs : List Rule, rs.Pairwise R → (∀ o ∈ rs, o.idx < new.idx ∧ M o) → (insR stop new rs).Pairwise R) :
    ChainOK t.rule? (fun r => r.idx < new.idx + 1 ∧ M r) R (insertBefore stop t new.idx chain) := by
  obtain ⟨h1, h2, h3⟩ := h
  refine ⟨fun i hi => ?_, ?_, ?_⟩
  · rcases mem_insertBefore.mp hi with rfl | hi
    · exact ⟨new, hreg, rfl, Nat.lt_succ_self _, hM⟩
    · obtain ⟨r, a, b, c, d⟩ := h1 i hi
      exact ⟨r, a, b, Nat.lt_succ_of_lt c, d⟩
  · rw [insertBefore_resolved stop t new hreg chain fun i hi => (h1 i hi).imp fun _ h => h.1]
    refine hR _ h2 fun o ho => ?_
    obtain ⟨i, hi, hio⟩ := List.mem_filterMap.mp ho
    obtain ⟨r, a, _, c⟩ := h1 i hi
    rw [a] at hio
    cases hio
    exact c
  · refine (insertBefore_perm stop t new.idx chain).nodup_iff.mpr (List.nodup_cons.mpr ⟨fun hm => ?_, h3⟩)
    obtain ⟨r, _, b, c, _⟩ := h1 _ hm
    omega

-- what the members of the four kinds of chain have in common: `FwdM h` / `BackM h` of forward / backward bucket `h`,
-- `CharM c` / `DotsM d` of the chain of character `c` / cell `d`
def FwdM (h : Nat) (r : Rule) : Prop := 2 ≤ r.chars.length ∧ rawHash (r.chars.getD 0 0) (r.chars.getD 1 0) = h
def BackM (h : Nat) (r : Rule) : Prop :=
  2 ≤ r.dots.length ∧ rawHash (r.dots.getD 0 0) (r.dots.getD 1 0) = h ∧ r.opcode ≠ CTO_SwapCc
def CharM (c : Nat) (r : Rule) : Prop := r.chars = [c]
def DotsM (d : Nat) (r : Rule) : Prop := r.dots = [d] ∧ r.opcode ≠ CTO_SwapCc ∧ r.opcode ≠ CTO_Repeated

/-- an optional rule index (definition rule, indicator slot), if set, resolves to a rule with property `P` -/
def DefOK (look : Nat → Option Rule) (o : Option Nat) (P : Rule → Prop) : Prop :=
  ∀ i, o = some i → ∃ r, look i = some r ∧ P r

theorem defOK_none (look : Nat → Option Rule) (P : Rule → Prop) : DefOK look none P := fun _ h => nomatch h

theorem defOK_some {look : Nat → Option Rule} {r : Rule} {P : Rule → Prop} (h : look r.idx = some r) (hP : P r) :
    DefOK look (some r.idx) P :=
  fun _ hi => Option.some.inj hi ▸ ⟨r, h, hP⟩

abbrev ChainB (look : Nat → Option Rule) (n : Nat) (M : Rule → Prop) (R : Rule → Rule → Prop) (chain : List Nat) : Prop :=
  ChainOK look (fun r => r.idx < n ∧ M r) R chain

/-- a character record of the fragment.  The last three: the compile model has no `compdots`/`comp6`, no `base`, no capital modes;
    `noMode` is what makes case folding the identity (C05 `fwdWF_of_invF`) -/
structure CharRecOK (look : Nat → Option Rule) (n : Nat) (c : CharRec) : Prop where
  chain : ChainB look n (CharM c.value) CharLe c.chain
  defRule : DefOK look c.defRule (fun r => IsDef r ∧ r.chars = [c.value])
  noComp : c.compRule = none
  noBase : c.base = none
  noMode : c.mode = 0

/-- a cell record; its chain carries no order (`TableConsistent` states none for backward chains) -/
structure DotsRecOK (look : Nat → Option Rule) (n : Nat) (d : DotsRec) : Prop where
  chain : ChainB look n (DotsM d.value) (fun _ _ => True) d.chain
  defRule : DefOK look d.defRule (fun r => IsDef r ∧ r.dots = [d.value])

structure BucketsOK (look : Nat → Option Rule) (n : Nat) (M : Nat → Rule → Prop) (R : Rule → Rule → Prop)
    (bs : List (Nat × List Nat)) : Prop where
  chains : ∀ b ∈ bs, ChainB look n (M b.1) R b.2
  keysNodup : (bs.map (·.1)).Nodup
  keysLt : ∀ b ∈ bs, b.1 < HASHNUM

/-- the invariant with a bound of its own for each direction: the indices filed forward (character chains, forward
    buckets) are below `nf`, those filed backward below `nb`.  Between registering a rule and linking it the two
    bounds lag behind the counter -/
structure CInvP (nf nb : Nat) (t : Table) : Prop where
  idxLt : ∀ r ∈ t.rules, r.idx < t.ruleCounter
  sortedRules : t.rules.Pairwise (fun a b => a.idx < b.idx)
  chars : ∀ c ∈ t.chars, CharRecOK t.rule? nf c
  forB : BucketsOK t.rule? nf FwdM le t.forB
  dots : ∀ d ∈ t.dots, DotsRecOK t.rule? nb d
  backB : BucketsOK t.rule? nb BackM (fun _ _ => True) t.backB
  undefined : DefOK t.rule? t.undefined (fun _ => True)
  numberSign : DefOK t.rule? t.numberSign (fun _ => True)
  -- the fragment sets no other indicator slot, and has no pass chains and no emphasis rules:
  letterSign : t.letterSign = none
  noContractSign : t.noContractSign = none
  noNumberSign : t.noNumberSign = none
  begComp : t.begComp = none
  endComp : t.endComp = none
  forPass : t.forPass = []
  backPass : t.backPass = []
  emph : t.emph = []

abbrev CInvF (t : Table) : Prop := CInvP t.ruleCounter t.ruleCounter t

section mono
variable {look look' : Nat → Option Rule} (hl : ∀ i r, look i = some r → look' i = some r) {n n' : Nat} (hn : n ≤ n')
include hl

theorem defOK_mono {o : Option Nat} {P : Rule → Prop} (h : DefOK look o P) : DefOK look' o P := fun i hi =>
  let ⟨r, a, b⟩ := h i hi
  ⟨r, hl i r a, b⟩

include hn

theorem chainB_mono {M : Rule → Prop} {R : Rule → Rule → Prop} {chain : List Nat} (h : ChainB look n M R chain) :
    ChainB look' n' M R chain :=
  chainOK_mono hl (fun _ h => ⟨Nat.lt_of_lt_of_le h.1 hn, h.2⟩) h

theorem charRecOK_mono {c : CharRec} (h : CharRecOK look n c) : CharRecOK look' n' c :=
  { h with chain := chainB_mono hl hn h.chain, defRule := defOK_mono hl h.defRule }

theorem dotsRecOK_mono {d : DotsRec} (h : DotsRecOK look n d) : DotsRecOK look' n' d :=
  ⟨chainB_mono hl hn h.chain, defOK_mono hl h.defRule⟩

theorem bucketsOK_mono {M : Nat → Rule → Prop} {R : Rule → Rule → Prop} {bs : List (Nat × List Nat)}
    (h : BucketsOK look n M R bs) : BucketsOK look' n' M R bs :=
  { h with chains := fun b hb => chainB_mono hl hn (h.chains b hb) }

end mono

theorem CInvP.mono {nf nb nf' nb' : Nat} {t : Table} (h : CInvP nf nb t) (hf : nf ≤ nf') (hb : nb ≤ nb') : CInvP nf' nb' t :=
  { h with chars := fun c hc => charRecOK_mono (fun _ _ h => h) hf (h.chars c hc)
           forB := bucketsOK_mono (fun _ _ h => h) hf h.forB
           dots := fun d hd => dotsRecOK_mono (fun _ _ h => h) hb (h.dots d hd)
           backB := bucketsOK_mono (fun _ _ h => h) hb h.backB }

theorem putChar_invP {nf nb : Nat} {t : Table} (c : Nat) (h : CInvP nf nb t) : CInvP nf nb (putChar t c) :=
  putChar_elim t c (fun _ _ => h) fun _ => { h with
    chars := List.forall_mem_append.mpr ⟨h.chars, List.forall_mem_singleton.mpr ⟨chainOK_nil .., defOK_none _ _, rfl, rfl, rfl⟩⟩ }

theorem putDots_invP {nf nb : Nat} {t : Table} (d : Nat) (h : CInvP nf nb t) : CInvP nf nb (putDots t d) :=
  putDots_elim t d (fun _ _ => h) fun _ => { h with
    dots := List.forall_mem_append.mpr ⟨h.dots, List.forall_mem_singleton.mpr ⟨chainOK_nil .., defOK_none _ _⟩⟩ }

theorem updChar_invP {nf nf' nb : Nat} {t : Table} {c : Nat} {f : CharRec → CharRec} (h : CInvP nf nb t) (hn : nf ≤ nf')
    (hf : ∀ x ∈ t.chars, x.value = c → CharRecOK t.rule? nf' (f x)) : CInvP nf' nb (updChar t c f) := by
  refine { h.mono hn (Nat.le_refl _) with chars := fun x hx => ?_ }
  obtain ⟨y, hy, rfl⟩ := List.mem_map.mp hx
  split
  next hv => exact hf y hy (beq_iff_eq.mp hv)
  · exact (h.mono hn (Nat.le_refl _)).chars y hy

theorem updDots_invP {nf nb nb' : Nat} {t : Table} {d : Nat} {f : DotsRec → DotsRec} (h : CInvP nf nb t) (hn : nb ≤ nb')
    (hf : ∀ x ∈ t.dots, x.value = d → DotsRecOK t.rule? nb' (f x)) : CInvP nf nb' (updDots t d f) := by
  refine { h.mono (Nat.le_refl _) hn with dots := fun x hx => ?_ }
  obtain ⟨y, hy, rfl⟩ := List.mem_map.mp hx
  split
  next hv => exact hf y hy (beq_iff_eq.mp hv)
  · exact (h.mono (Nat.le_refl _) hn).dots y hy

theorem updBucket_ok {t : Table} {new : Rule} {M : Nat → Rule → Prop} {R : Rule → Rule → Prop} {stop : Rule → Bool}
    {bs : List (Nat × List Nat)} {k : Nat} (h : BucketsOK t.rule? new.idx M R bs) (hreg : t.rule? new.idx = some new)
    (hk : k < HASHNUM) (hM : M k new)
    (hR : ∀ rs : List Rule, rs.Pairwise R → (∀ o ∈ rs, o.idx < new.idx ∧ M k o) → (insR stop new rs).Pairwise R) :
    BucketsOK t.rule? (new.idx + 1) M R (updBucket bs k (insertBefore stop t new.idx)) := by
  refine ⟨fun b hb => ?_, ?_, fun b hb => ?_⟩
  · rcases mem_updBucket hb with hb | ⟨old, hold, rfl⟩ | ⟨_, rfl⟩
    · exact chainB_mono (fun _ _ h => h) (Nat.le_succ _) (h.chains b hb)
    · exact chainOK_insert (h.chains _ hold) hreg hM hR
    · exact chainOK_insert (chainOK_nil ..) hreg hM hR
  · rw [updBucket_keys]
    split
    · exact h.keysNodup
    next hany =>
      refine List.nodup_append.mpr ⟨h.keysNodup, by simp, fun a ha b hb => ?_⟩
      rw [List.mem_singleton.mp hb]
      rintro rfl
      obtain ⟨x, hx, rfl⟩ := List.mem_map.mp ha
      exact hany (List.any_eq_true.mpr ⟨x, hx, by simp⟩)
  · rcases mem_updBucket hb with hb | ⟨_, _, rfl⟩ | ⟨_, rfl⟩
    · exact h.keysLt b hb
    · exact hk
    · exact hk

theorem addFwdMulti_invP {nb : Nat} {t : Table} {r : Rule} (h : CInvP r.idx nb t) (hreg : t.rule? r.idx = some r)
    (hlen : 2 ≤ r.chars.length) : CInvP (r.idx + 1) nb (addFwdMulti t r) := by
  rw [addFwdMulti_eq]
  exact { h.mono (Nat.le_succ _) (Nat.le_refl _) with
    forB := updBucket_ok h.forB hreg (rawHash_lt ..) ⟨hlen, rfl⟩ fun rs hp hm => insR_sorted r rs hp fun o ho => (hm o ho).1 }

-- the backward chains carry the order `fun _ _ => True`
theorem pairwise_true {l : List Rule} : l.Pairwise fun _ _ => True := List.pairwise_of_forall fun _ _ => trivial

theorem addBackMulti_invP {nf : Nat} {t : Table} {r : Rule} (h : CInvP nf r.idx t) (hreg : t.rule? r.idx = some r)
    (hlen : 2 ≤ r.dots.length) : CInvP nf (r.idx + 1) (addBackMulti t r) :=
  addBackMulti_elim t r (fun _ => h.mono (Nat.le_refl _) (Nat.le_succ _)) fun hsw =>
    { h.mono (Nat.le_refl _) (Nat.le_succ _) with
      backB := updBucket_ok h.backB hreg (rawHash_lt ..) ⟨hlen, rfl, hsw⟩ fun _ _ _ => pairwise_true }

theorem list_len1 (l : List Nat) (h : l.length = 1) : l = [l.headD 0] := by
  match l, h with
  | [a], _ => rfl

theorem addFwdSingle_invP {nb : Nat} {t : Table} {r : Rule} (h : CInvP r.idx nb t) (hreg : t.rule? r.idx = some r)
    (hlen : r.chars.length = 1) : CInvP (r.idx + 1) nb (addFwdSingle t r) := by
  have hchars : r.chars = [r.chars.headD 0] := list_len1 _ hlen
  -- carried through the record and the definition rule: the invariant below `r.idx`, and `r` registered
  refine addFwdSingle_elim (Q := fun t' => CInvP r.idx nb t' ∧ t'.rule? r.idx = some r) t r
    ⟨putChar_invP _ h, by rw [(putChar_links t _).rule?]; exact hreg⟩ (fun hd t' ⟨h1, reg1⟩ => ⟨?_, reg1⟩) fun t' ⟨h2, reg2⟩ => ?_
  · refine updChar_invP h1 (Nat.le_refl _) fun x hx hv => ?_
    split
    · exact h1.chars x hx
    · exact { h1.chars x hx with defRule := defOK_some reg1 ⟨hd, by rw [hchars, hv]⟩ }
  · refine updChar_invP h2 (Nat.le_succ _) fun x hx hv => ?_
    have hM : CharM x.value r := by unfold CharM; rw [hchars, hv]
    refine { h2.chars x hx with chain := chainOK_insert (h2.chars x hx).chain reg2 hM fun rs hp hm => ?_ }
    exact insR_charSorted r rs hp (fun o ho => (hm o ho).1) fun o ho => by rw [(hm o ho).2]; simp

theorem addBackSingle_invP {nf : Nat} {t : Table} {r : Rule} (h : CInvP nf r.idx t) (hreg : t.rule? r.idx = some r)
    (hlen : r.dots.length = 1) : CInvP nf (r.idx + 1) (addBackSingle t r (r.dots.headD 0)) := by
  have hdots : r.dots = [r.dots.headD 0] := list_len1 _ hlen
  refine addBackSingle_elim (Q := fun t' => CInvP nf r.idx t' ∧ t'.rule? r.idx = some r) t r _
    (fun _ => h.mono (Nat.le_refl _) (Nat.le_succ _)) ⟨putDots_invP _ h, by rw [(putDots_links t _).rule?]; exact hreg⟩
    (fun hd t' ⟨h1, reg1⟩ => ⟨?_, reg1⟩) fun hsw hrep t' ⟨h2, reg2⟩ => ?_
  · refine updDots_invP h1 (Nat.le_refl _) fun x hx hv => ?_
    exact { h1.dots x hx with defRule := defOK_some reg1 ⟨hd, by rw [hdots, hv]⟩ }
  · refine updDots_invP h2 (Nat.le_succ _) fun x hx hv => ?_
    exact { h2.dots x hx with
      chain := chainOK_insert (h2.dots x hx).chain reg2 ⟨by rw [hdots, hv], hsw, hrep⟩ fun _ _ _ => pairwise_true }

theorem linkFwd_invP {nb : Nat} {t : Table} (e : Entry) {r : Rule} (h : CInvP r.idx nb t) (hreg : t.rule? r.idx = some r) :
    CInvP (r.idx + 1) nb (linkFwd t e r) :=
  linkFwd_elim t e r (h.mono (Nat.le_succ _) (Nat.le_refl _)) (addFwdSingle_invP h hreg) (addFwdMulti_invP h hreg)

theorem linkBack_invP {nf : Nat} {t : Table} (e : Entry) {r : Rule} (h : CInvP nf r.idx t) (hreg : t.rule? r.idx = some r) :
    CInvP nf (r.idx + 1) (linkBack t e r) :=
  linkBack_elim t e r (h.mono (Nat.le_refl _) (Nat.le_succ _)) (addBackSingle_invP h hreg) (addBackMulti_invP h hreg)

theorem registerRule_invP {t : Table} (r : Rule) (h : CInvF t) (hidx : r.idx = t.ruleCounter) :
    CInvP r.idx r.idx (registerRule t r) ∧ (registerRule t r).rule? r.idx = some r := by
  have hl := (C15.registerRule_grows t r).rules
  rw [hidx]
  refine ⟨{ h with
    idxLt := List.forall_mem_append.mpr
      ⟨fun x hx => Nat.lt_succ_of_lt (h.idxLt x hx), List.forall_mem_singleton.mpr (Nat.lt_succ_of_le (Nat.le_of_eq hidx))⟩
    sortedRules := ?_
    chars := fun c hc => charRecOK_mono hl (Nat.le_refl _) (h.chars c hc)
    forB := bucketsOK_mono hl (Nat.le_refl _) h.forB
    dots := fun d hd => dotsRecOK_mono hl (Nat.le_refl _) (h.dots d hd)
    backB := bucketsOK_mono hl (Nat.le_refl _) h.backB
    undefined := defOK_mono hl h.undefined
    numberSign := defOK_mono hl h.numberSign }, ?_⟩
  · refine List.pairwise_append.mpr ⟨h.sortedRules, by simp, fun a ha b hb => ?_⟩
    rw [List.mem_singleton.mp hb, hidx]
    exact h.idxLt a ha
  · have hnew : t.rule? t.ruleCounter = none := Option.eq_none_iff_forall_ne_some.mpr fun x hx =>
      Nat.ne_of_lt (h.idxLt x (Table.rule?_mem hx)) (Table.rule?_idx hx)
    rw [registerRule_rule?, hnew, if_pos hidx, Option.none_or]

theorem addRule_invF (t : Table) (e : Entry) (h : CInvF t) :
    CInvF (addRule t e).1 ∧ (addRule t e).1.rule? (addRule t e).2 = some (newRule t e) := by
  obtain ⟨h1, reg1⟩ := registerRule_invP (newRule t e) h rfl
  refine ⟨?_, (addRule_links t e).grows.rules _ _ reg1⟩
  unfold CInvF
  rw [(addRule_adds t e).ruleCounter]
  exact linkBack_invP e (linkFwd_invP e h1 reg1) ((linkFwd_links _ e _).grows.rules _ _ reg1)

theorem prepCharDef_invF (t : Table) (c : Nat) (dots : List Nat) (a : Nat) (h : CInvF t) : CInvF (prepCharDef t c dots a) := by
  unfold CInvF
  rw [(prepCharDef_links t c dots a).ruleCounter]
  have h1 := putChar_invP c h
  refine prepCharDef_elim (Q := CInvP t.ruleCounter t.ruleCounter) t c dots a ?_ fun _ t' h3 =>
    updDots_invP h3 (Nat.le_refl _) fun x hx _ => { h3.dots x hx with }
  exact List.foldlRecOn dots.reverse putDots
    (updChar_invP h1 (Nat.le_refl _) fun x hx _ => { h1.chars x hx with }) fun _ hb d _ => putDots_invP d hb

theorem compileEntry_invF {t t' : Table} {e : Entry} (h : CInvF t) (hc : compileEntry t e = some t') : CInvF t' := by
  rcases compileEntry_some hc with ⟨c, a, -, -, rfl⟩ | ⟨-, (rfl | rfl) | rfl⟩
  · exact (addRule_invF _ e (prepCharDef_invF t c e.dots a h)).1
  · obtain ⟨hi, hr⟩ := addRule_invF t { e with chars := [] } h
    exact { hi with numberSign := defOK_some hr trivial }
  · obtain ⟨hi, hr⟩ := addRule_invF t { e with chars := [] } h
    exact { hi with undefined := defOK_some hr trivial }
  · exact (addRule_invF t e h).1

theorem init_invF : CInvF initTable :=
  { idxLt := nofun, sortedRules := .nil, chars := nofun, forB := ⟨nofun, .nil, nofun⟩, dots := nofun, backB := ⟨nofun, .nil, nofun⟩
    undefined := defOK_none _ _, numberSign := defOK_none _ _, letterSign := rfl, noContractSign := rfl, noNumberSign := rfl
    begComp := rfl, endComp := rfl, forPass := rfl, backPass := rfl, emph := rfl }

theorem compileUnfinalised_invF {es : List Entry} {t : Table} (hc : compileUnfinalised es = some t) : CInvF t :=
  compileUnfinalised_induction hc init_invF fun _ _ _ _ ih h => compileEntry_invF ih h

theorem finalise_invF {t : Table} (h : CInvF t) : CInvF (finalise t) := { h with }

theorem compile_invF {es : List Entry} {t : Table} (hc : compile es = some t) : CInvF t := by
  obtain ⟨t0, ht0, rfl⟩ := compile_some hc
  exact finalise_invF (compileUnfinalised_invF ht0)

theorem chainAll_of_ok {t : Table} (hs : t.rules.Pairwise (fun a b => a.idx < b.idx)) {M P : Rule → Prop}
    {R : Rule → Rule → Prop} {chain : List Nat} (hc : ChainOK t.rule? M R chain) (hMP : ∀ r ∈ t.rules, M r → P r) :
    ChainAll t chain P := by
  intro i hi r hr
  obtain ⟨r0, a, _, c⟩ := hc.members i hi
  rw [rule?_of_res t hs i r hr] at a
  cases a
  exact hMP r hr.1 c

theorem chainOrdered_of_ok {t : Table} (hs : t.rules.Pairwise (fun a b => a.idx < b.idx)) {M : Rule → Prop}
    {R : Rule → Rule → Prop} {chain : List Nat} (hc : ChainOK t.rule? M R chain) : ChainOrdered t chain R := by
  refine List.Pairwise.imp ?_ (List.pairwise_filterMap.mp hc.ordered)
  intro i j hij ri rj hri hrj
  exact hij ri (rule?_of_res t hs i ri hri) rj (rule?_of_res t hs j rj hrj)

theorem chain_resolves_of_ok {t : Table} {M : Rule → Prop} {R : Rule → Rule → Prop} {chain : List Nat}
    (hc : ChainOK t.rule? M R chain) : ∀ i ∈ chain, Resolves t i := fun i hi =>
  let ⟨r, a, _⟩ := hc.members i hi
  ⟨r, res_of_rule? t i r a⟩

theorem resolvesOpt_of_def {t : Table} {o : Option Nat} {P : Rule → Prop} (hd : DefOK t.rule? o P) : ResolvesOpt t o :=
  fun i hi => let ⟨r, a, _⟩ := hd i hi; ⟨r, res_of_rule? t i r a⟩

theorem optAll_of_def {t : Table} (hs : t.rules.Pairwise (fun a b => a.idx < b.idx)) {o : Option Nat} {P : Rule → Prop}
    (hd : DefOK t.rule? o P) : OptAll t o P := by
  intro i hi r hr
  obtain ⟨r0, a, c⟩ := hd i hi
  rw [rule?_of_res t hs i r hr] at a
  cases a
  exact c

theorem resolvesOpt_none (t : Table) : ResolvesOpt t none := nofun
theorem optAll_none (t : Table) (P : Rule → Prop) : OptAll t none P := nofun

/-- `linked = []`: the fragment has no `base` -/
theorem consistent_of_invF (t : Table) (h : CInvF t) (hctx : ∀ r ∈ t.rules, r.opcode ≠ CTO_Context) : TableConsistent t [] := by
  have hs := h.sortedRules
  -- without `context` rules both directions file under the raw hash of the rule's own characters / cells
  have hback : ∀ r ∈ t.rules, backCells r = r.dots := fun r hr => if_neg (by simpa using hctx r hr)
  have hfwd : ∀ r ∈ t.rules, fwdHash t [] r = rawHash (r.chars.getD 0 0) (r.chars.getD 1 0) := fun r hr =>
    if_neg (by simp [hctx r hr])
  exact {
    rulesSorted := hs
    belowCounter := h.idxLt
    resChars := fun c hc => ⟨chain_resolves_of_ok (h.chars c hc).chain, resolvesOpt_of_def (h.chars c hc).defRule,
      (h.chars c hc).noComp ▸ resolvesOpt_none t⟩
    resDots := fun d hd => ⟨chain_resolves_of_ok (h.dots d hd).chain, resolvesOpt_of_def (h.dots d hd).defRule⟩
    resFor := fun b hb => chain_resolves_of_ok (h.forB.chains b hb)
    resBack := fun b hb => chain_resolves_of_ok (h.backB.chains b hb)
    resForPass := by rw [h.forPass]; nofun
    resBackPass := by rw [h.backPass]; nofun
    resEmph := by rw [h.emph]; nofun
    resSlots := ⟨resolvesOpt_of_def h.undefined, h.letterSign ▸ resolvesOpt_none t, resolvesOpt_of_def h.numberSign,
      h.noContractSign ▸ resolvesOpt_none t, h.noNumberSign ▸ resolvesOpt_none t, h.begComp ▸ resolvesOpt_none t,
      h.endComp ▸ resolvesOpt_none t⟩
    nodupChars := fun c hc => (h.chars c hc).chain.nodup
    nodupDots := fun d hd => (h.dots d hd).chain.nodup
    nodupFor := fun b hb => (h.forB.chains b hb).nodup
    nodupBack := fun b hb => (h.backB.chains b hb).nodup
    nodupForPass := by rw [h.forPass]; nofun
    nodupBackPass := by rw [h.backPass]; nofun
    keysFor := ⟨h.forB.keysNodup, h.forB.keysLt⟩
    keysBack := ⟨h.backB.keysNodup, h.backB.keysLt⟩
    keysForPass := by rw [h.forPass]; exact ⟨.nil, nofun⟩
    keysBackPass := by rw [h.backPass]; exact ⟨.nil, nofun⟩
    fwdMember := fun b hb => chainAll_of_ok hs (h.forB.chains b hb) fun r hr hm => ⟨hm.2.1, (hfwd r hr).trans hm.2.2⟩
    backMember := fun b hb => chainAll_of_ok hs (h.backB.chains b hb) fun r hr hm => by
      unfold backHash; rw [hback r hr]; exact hm.2
    charMember := fun c hc => chainAll_of_ok hs (h.chars c hc).chain fun _ _ hm => hm.2
    dotsMember := fun d hd => chainAll_of_ok hs (h.dots d hd).chain fun r hr hm => by rw [hback r hr]; exact hm.2
    charDef := fun c hc => ⟨optAll_of_def hs (h.chars c hc).defRule, (h.chars c hc).noComp ▸ optAll_none t _⟩
    dotsDef := fun d hd => optAll_of_def hs (h.dots d hd).defRule
    charBase := fun c hc b hb => by rw [(h.chars c hc).noBase] at hb; cases hb
    fwdOrder := fun b hb => chainOrdered_of_ok hs (h.forB.chains b hb)
    charOrder := fun c hc => chainOrdered_of_ok hs (h.chars c hc).chain
    forPassMember := by rw [h.forPass]; nofun
    backPassMember := by rw [h.backPass]; nofun
    forPassOrder := by rw [h.forPass]; nofun
    backPassOrder := by rw [h.backPass]; nofun }

/-- the rule clauses hold before finalisation, that is, of the table as it stands after any number of run-time additions
    (`compileUnfinalised (es ++ adds)`, C15 `add_eq_append`): *this stays true after rules are added at run time* -/
theorem compile_consistent_unfinalised (es : List Entry) (t : Table) (hop : ∀ e ∈ es, e.opcode ≠ CTO_Context)
    (hc : compileUnfinalised es = some t) : TableConsistent t [] :=
  consistent_of_invF t (compileUnfinalised_invF hc) (compileUnfinalised_opcodes (Q := (· ≠ CTO_Context)) hc (by decide) hop)

/-- For EVERY list of entries of the fragment F0′ that the compile model accepts, the finalised
    logical table satisfies every rule clause of the property -/
theorem compile_consistent (es : List Entry) (t : Table) (hop : ∀ e ∈ es, e.opcode ≠ CTO_Context)
    (hc : compile es = some t) : TableConsistent t [] := by
  obtain ⟨t0, ht0, rfl⟩ := compile_some hc
  have hctx := compileUnfinalised_opcodes (Q := (· ≠ CTO_Context)) ht0 (by decide) hop
  exact consistent_of_invF _ (compile_invF hc) hctx

/-- non-vacuity: a bucket with three rules, two of them for the same string, an `always` among equals, a character with
    a translation rule and a definition; and the executable checker agrees on it -/
def exEntries : List Entry := [
    { opcode := CTO_LowerCase, chars := [97], dots := [0x8001] },
    { opcode := CTO_LowerCase, chars := [98], dots := [0x8003] },
    { opcode := CTO_Always, chars := [97, 98], dots := [0x8005] },
    { opcode := CTO_BegWord, chars := [97, 98], dots := [0x8006] },
    { opcode := CTO_Always, chars := [97], dots := [0x8007, 0x8001] },
    { opcode := CTO_Always, chars := [97, 98, 97], dots := [0x8007] }]

example : ∃ t, compile exEntries = some t ∧ t.forBucket (rawHash 97 98) = [6, 4, 3] ∧
    (t.char? 97).map (·.chain) = some [5, 1] ∧ checkTable t [] = [] := by
  decide +kernel

/-- the hypothesis is satisfiable … -/
example : ∀ e ∈ exEntries, e.opcode ≠ CTO_Context := by decide +kernel

/-- … and needed: the unrestricted statement is FALSE.  The model has no multipass compiler, so it files a
    `context` entry like an ordinary rule — backward under its cells — whereas the property (and the C code)
    file a `context` rule backward under its characters; the checker rejects the resulting table. -/
example : ∃ t, compile [{ opcode := CTO_LowerCase, chars := [97], dots := [0x8001] },
      { opcode := CTO_Context, chars := [97, 98], dots := [0x8001, 0x8002] }] = some t ∧ checkTable t [] ≠ [] := by
  decide +kernel

end Lou.C12
