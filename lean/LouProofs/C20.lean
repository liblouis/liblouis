/-
  C20 — table names resolve by a fixed precedence.

  Property text:
    "Which file a table name denotes is determined only by the name, the file it is
     included from (or the first table of its list), LOUIS_TABLEPATH and the files
     present: a match relative to the including file's directory wins over a match
     for the name as given (absolute or in the working directory), which wins over
     LOUIS_TABLEPATH directories in listed order.  A name found nowhere makes
     compilation fail with an error, and the choice is the same on every call
     regardless of what was loaded before."

  Everything below is about `Lou.Resolve`, the transcription of resolveSubtable / _lou_getTablePath /
  _lou_defaultTableResolver, and holds for ALL file systems `fs : String → FileKind`, names, bases and search paths.

  Wanted:
    (P)  resolveSubtable returns the first regular file of the explicit list
           [dir(base) ++ name]? ++ [name] ++ [d₁/name, d₁/liblouis/tables/name, …, dₙ/name]
         (no `liblouis/tables` variant for the last search-path entry), or none.
  (P) is FALSE without a length hypothesis: every candidate is guarded by a `strlen … >= MAX_TABLEFILE_SIZE` test
  whose failure abandons the whole resolution (`goto failure`), so an over-long early candidate hides a later one
  that exists (`overflow_hides_later_candidate`).  So `resolve_precedence` is (P) for the candidate list CUT at the
  first failing length test (`candidates`), without hypothesis.  For a non-empty name and a base shorter than 4096
  bytes the cut list is the explicit one up to its first candidate of 4096 bytes or more
  (`candidates_eq_takeWhile`).  Hence (P) whenever the first regular file and the candidates before it are shorter
  (`resolve_first_fit`: the precedence clauses (1)–(3′) are its instances), in particular under `Fits`, when all are
  (`candidates_eq_of_fits`, `resolve_precedence_fits`).
  Also forced by the code:
  * list members after the first are resolved against the first member's NAME AS GIVEN, not against the file it
    denotes (`list_base_rule`);
  * the built-in directory is searched only when LOUIS_TABLEPATH is unset or empty (`searchpath_order`); a comma
    inside the data path splits it (`searchpath_entries`).

  `candidatesU`, the list of (P), and `Fits` are defined below.  The cut list `candidates` (with `tailCands`, `pathCands`
  and `pathCandsU`), `short` and the hypotheses of the precedence clauses (`BaseMiss`, `EntryMiss`) are defined at the
  head of `Lemmas/Resolve.lean`, which also holds the lemmas the proofs here rest on.
-/
import LouProofs.Lemmas.Resolve

namespace Lou.C20
open Lou Lou.Resolve

/-- the explicit candidate list of the property, without any length test -/
def candidatesU (table : String) (base : Option String) (searchPath : String) : List String :=
  (match base with | some b => [dirPrefix b ++ table] | none => []) ++ [table] ++
  (if searchPath = "" then [] else pathCandsU table (entries searchPath))

/-- the search-path part of the list (P) of the header: both variants for every entry but the last -/
theorem pathCandsU_eq (table : String) (es : List String) (e : String) :
    pathCandsU table (es ++ [e]) =
      (es.flatMap fun d => [cand1 table d, cand2 table d]) ++ [cand1 table e] :=
  pathCandsU_append table es e []

/-- the length hypothesis under which no `goto failure` is taken -/
def Fits (table : String) (base : Option String) (searchPath : String) : Prop :=
  (∀ b, base = some b → strlen b < MAX_TABLEFILE_SIZE) ∧
  ∀ c ∈ candidatesU table base searchPath, strlen c < MAX_TABLEFILE_SIZE

/-- The resolver returns the FIRST candidate, in the order of `candidates`, that is a
    regular file (`stat` succeeds and the S_IFDIR bit is clear), and NULL when there is none.  Nothing else about
    the file system is consulted. -/
theorem resolve_precedence (fs : FS) (table : String) (base : Option String) (sp : String) :
    resolveSubtable fs table base sp = (candidates table base sp).find? (isFile fs) := by
  unfold resolveSubtable candidates
  refine guard_find? ?_
  cases base with
  | none => exact resolveTail_eq_find fs table sp
  | some b => exact guard_find? (guard_find? (test_find? (resolveTail_eq_find fs table sp)))

/-- The cut list is the explicit list up to its first candidate that is too long.  The two tests that stand in front of
    no candidate are the hypotheses: an empty name and a base of 4096 bytes or more leave no candidate at all. -/
theorem candidates_eq_takeWhile (table : String) (base : Option String) (sp : String) (ht : table ≠ "")
    (hb : ∀ b, base = some b → strlen b < MAX_TABLEFILE_SIZE) :
    candidates table base sp = (candidatesU table base sp).takeWhile short := by
  have htail : tailCands table sp =
      (table :: if sp = "" then [] else pathCandsU table (entries sp)).takeWhile short :=
    cut_takeWhile rfl (by
      split
      · rfl
      · exact pathCands_eq_takeWhile table _)
  unfold candidates candidatesU
  rw [if_neg ht]
  cases base with
  | none => exact htail
  | some b => exact (if_neg (Nat.not_le.2 (hb b rfl))).trans (cut_takeWhile String.utf8ByteSize_append htail)

theorem candidates_eq_of_fits (table : String) (base : Option String) (sp : String)
    (ht : table ≠ "") (hf : Fits table base sp) :
    candidates table base sp = candidatesU table base sp :=
  (candidates_eq_takeWhile table base sp ht hf.1).trans (takeWhile_eq_self fun c hc => decide_eq_true (hf.2 c hc))

/-- `resolve_precedence` in the property's wording: (P) of the file header, when no candidate reaches 4096 bytes -/
theorem resolve_precedence_fits (fs : FS) (table : String) (base : Option String) (sp : String)
    (ht : table ≠ "") (hf : Fits table base sp) :
    resolveSubtable fs table base sp = (candidatesU table base sp).find? (isFile fs) := by
  rw [resolve_precedence, candidates_eq_of_fits table base sp ht hf]

theorem resolve_some_iff (fs : FS) (table : String) (base : Option String) (sp p : String) :
    resolveSubtable fs table base sp = some p ↔
      isFile fs p = true ∧ ∃ pre post, candidates table base sp = pre ++ p :: post ∧
        ∀ c ∈ pre, isFile fs c = false := by
  rw [resolve_precedence, List.find?_eq_some_iff_append]
  simp only [Bool.not_eq_true']

theorem resolve_empty (fs : FS) (base : Option String) (sp : String) :
    resolveSubtable fs "" base sp = none := by
  simp [resolveSubtable]

/-- The result is a function of (name, base, search path) and of the regular-file status of the
    CANDIDATES only: not of earlier calls or loaded tables (the model has no state argument; the C function's only
    `static` is the `stat` buffer, overwritten before each use), of the contents, permissions, size or time of any
    file, of files that are not candidates, or of whether a non-matching candidate is absent or a directory. -/
theorem resolve_pure (fs₁ fs₂ : FS) (table : String) (base : Option String) (sp : String)
    (h : ∀ c ∈ candidates table base sp, isFile fs₁ c = isFile fs₂ c) :
    resolveSubtable fs₁ table base sp = resolveSubtable fs₂ table base sp := by
  rw [resolve_precedence, resolve_precedence]
  exact find?_congr_mem _ _ _ h

theorem resolveList_congr (fs₁ fs₂ : FS) (sp : String)
    (h : ∀ p, isFile fs₁ p = isFile fs₂ p) (ms : List String) (base : Option String) (first : Bool) :
    resolveList fs₁ sp ms base first = resolveList fs₂ sp ms base first := by
  induction ms generalizing base first with
  | nil => rfl
  | cons m ms ih =>
    unfold resolveList
    rw [resolve_pure fs₁ fs₂ m base sp (fun c _ => h c), ih]

/-- `resolve_pure` for the whole resolver: the answer (files and log) is a function of
    the list, the base, LOUIS_TABLEPATH, the data path, TABLESDIR and of which paths are
    regular files — of nothing else. -/
theorem resolver_pure (fs₁ fs₂ : FS) (env dp : Option String) (td list : String) (base : Option String)
    (h : ∀ p, isFile fs₁ p = isFile fs₂ p) :
    defaultTableResolver fs₁ env dp td list base = defaultTableResolver fs₂ env dp td list base := by
  unfold defaultTableResolver
  rw [resolveList_congr fs₁ fs₂ _ h]

theorem resolve_none_iff (fs : FS) (table : String) (base : Option String) (sp : String) :
    resolveSubtable fs table base sp = none ↔ ∀ c ∈ candidates table base sp, fs c ≠ FileKind.file := by
  rw [resolve_precedence, List.find?_eq_none]
  exact forall₂_congr fun _ _ => not_congr isFile_iff

/-- "A name found nowhere": the direction of `resolve_none_iff` the property states.  For a
    list see `resolver_fails_iff`, for the error that is logged `resolver_fail_logs_error`. -/
theorem resolve_none_fails (fs : FS) (table : String) (base : Option String) (sp : String)
    (h : ∀ c ∈ candidates table base sp, fs c ≠ FileKind.file) :
    resolveSubtable fs table base sp = none :=
  (resolve_none_iff fs table base sp).mpr h

theorem resolve_none_fails_fits (fs : FS) (table : String) (base : Option String) (sp : String)
    (hf : Fits table base sp) (h : ∀ c ∈ candidatesU table base sp, fs c ≠ FileKind.file) :
    resolveSubtable fs table base sp = none := by
  by_cases ht : table = ""
  · subst ht; exact resolve_empty fs base sp
  · apply resolve_none_fails
    rw [candidates_eq_of_fits table base sp ht hf]; exact h

/-- For a list `m₀,m₁,…,mₖ` resolved with base `b` (NULL from
    lou_getTable/compileTable, the including file from `include`), the resolver
    succeeds with `p₀ … pₖ` exactly when `m₀` resolves against `b` to `p₀` and every
    later `mᵢ` resolves to `pᵢ` against **the string `m₀`** — the first member's name as
    written in the list, not `p₀`, the file it denotes. -/
theorem list_base_rule (fs : FS) (sp m₀ : String) (ms : List String) (b : Option String) (ps : List String) :
    resolveList fs sp (m₀ :: ms) b true = .ok ps ↔
      ∃ p₀ ps', ps = p₀ :: ps' ∧ resolveSubtable fs m₀ b sp = some p₀ ∧
        ms.map (fun m => resolveSubtable fs m (some m₀) sp) = ps'.map some := by
  rw [resolveList_cons]
  cases resolveSubtable fs m₀ b sp with
  | none => simp
  | some p =>
    simp only [if_true, ← resolveList_tail_eq]
    cases resolveList fs sp ms (some m₀) false with
    | ok qs => exact ⟨fun h => by cases h; exact ⟨p, qs, rfl, rfl, rfl⟩, fun ⟨_, _, h, hp, hq⟩ => by cases hp; cases hq; rw [h]⟩
    | error e => exact ⟨(fun h => by cases h), fun ⟨_, _, _, _, hq⟩ => by cases hq⟩

/-- for a list: the resolver returns NULL as a whole — no partial list — exactly when SOME member does not resolve
    (the first against the given base, the others against the first member's name). -/
theorem resolver_fails_iff (fs : FS) (env dp : Option String) (td list : String) (base : Option String) :
    (defaultTableResolver fs env dp td list base).files = none ↔
      ∃ m₀ ms, entries list = m₀ :: ms ∧
        (resolveSubtable fs m₀ base (getTablePath env dp td) = none ∨
         ∃ m ∈ ms, resolveSubtable fs m (some m₀) (getTablePath env dp td) = none) := by
  unfold defaultTableResolver
  cases he : entries list with
  | nil => exact absurd he (entries_ne_nil list)
  | cons m₀ ms =>
    generalize getTablePath env dp td = sp
    refine Iff.trans ?_ ⟨fun h => ⟨m₀, ms, rfl, h⟩, fun ⟨_, _, heq, h⟩ => by cases heq; exact h⟩
    rw [resolveList_cons]
    cases hm : resolveSubtable fs m₀ base sp with
    | none => simp
    | some p =>
      have h := resolveList_tail_spec fs sp (some m₀) ms
      rw [if_pos rfl]
      cases hr : resolveList fs sp ms (some m₀) false with
      | ok ps =>
        rw [hr] at h
        simp only [reduceCtorEq, false_or, false_iff]
        exact fun ⟨m, hmem, hn⟩ => ne_none_of_map_eq_map_some h hmem hn
      | error m =>
        rw [hr] at h
        simp only [reduceCtorEq, false_or, true_iff]
        exact ⟨m, h⟩

theorem resolver_fail_logs_error (fs : FS) (env dp : Option String) (td list : String) (base : Option String)
    (h : (defaultTableResolver fs env dp td list base).files = none) :
    ∃ m ∈ (defaultTableResolver fs env dp td list base).log, m.1 = LOG_ERROR := by
  unfold defaultTableResolver at *
  cases hr : resolveList fs (getTablePath env dp td) (entries list) base true with
  | ok ps => rw [hr] at h; cases h
  | error m => exact ⟨_, List.mem_cons_self, rfl⟩

/-- on success nothing is logged at INFO or above (`found table …` at DEBUG is not in the model) -/
theorem resolver_ok_logs_nothing (fs : FS) (env dp : Option String) (td list : String) (base : Option String)
    (ps : List String) (h : (defaultTableResolver fs env dp td list base).files = some ps) :
    (defaultTableResolver fs env dp td list base).log = [] ∧ ps.length = (entries list).length := by
  unfold defaultTableResolver at *
  cases hr : resolveList fs (getTablePath env dp td) (entries list) base true with
  | ok qs =>
    rw [hr] at h
    simp only [Option.some.injEq] at h
    subst h
    refine ⟨rfl, ?_⟩
    cases he : entries list with
    | nil => exact absurd he (entries_ne_nil list)
    | cons m₀ ms =>
      rw [he] at hr
      obtain ⟨p₀, ps', rfl, _, h2⟩ := (list_base_rule fs _ m₀ ms base qs).mp hr
      have := congrArg List.length h2
      simp only [List.length_map] at this
      simp [this]
  | error m => rw [hr] at h; cases h

/-- an unresolved `include` never compiles a file (the caller does `errorCount++; return 0`) -/
theorem include_unresolved (fs : FS) (env dp : Option String) (td inc file : String)
    (h : (resolveTable fs env dp td inc (some file)).files = none) :
    (includeResolve fs env dp td inc file).1 = IncludeOutcome.unresolved := by
  unfold includeResolve
  simp only [h]

/-- The directories `resolveSubtable` walks are the
    comma-separated fields of the parts `_lou_getTablePath` wrote, in order of writing. -/
theorem searchpath_entries (env dp : Option String) (td : String) :
    entries (getTablePath env dp td) = (searchParts env dp td).flatMap entries := by
  unfold getTablePath
  cases h : searchParts env dp td with
  | nil => exact absurd h (searchParts_ne_nil env dp td)
  | cons p ps => exact entries_intercalate p ps

/-- `_lou_getTablePath` lists: first the LOUIS_TABLEPATH
    directories in the order listed (when the variable is set and not empty); then
    `<dataPath>/liblouis/tables` (when a non-empty data path was set with
    lou_setDataPath); then the built-in TABLESDIR — **only when LOUIS_TABLEPATH is unset
    or empty**.  Nothing else. -/
theorem searchpath_order (env dp : Option String) (td : String) :
    entries (getTablePath env dp td) =
      (match nonEmpty? env with | some e => entries e | none => []) ++
      (match nonEmpty? dp with | some d => entries (d ++ "/liblouis/tables") | none => []) ++
      (match nonEmpty? env with | some _ => [] | none => entries td) := by
  rw [searchpath_entries]
  unfold searchParts
  cases nonEmpty? env <;> cases nonEmpty? dp <;> simp [List.flatMap_cons]

theorem getTablePath_cases (e d td : String) (he : e ≠ "") (hd : d ≠ "") :
    getTablePath (some e) none td = e ∧
    getTablePath (some e) (some d) td = e ++ "," ++ (d ++ "/liblouis/tables") ∧
    getTablePath none (some d) td = (d ++ "/liblouis/tables") ++ "," ++ td ∧
    getTablePath none none td = td ∧
    getTablePath (some "") none td = td := by
  simp [getTablePath, searchParts, nonEmpty?, he, hd]

/-- (P) up to the first regular file: it is the answer when it and every candidate the explicit list has before it are
    `short`, whatever the lengths of the candidates after it.  The four precedence clauses below name that candidate
    and the ones before it. -/
theorem resolve_first_fit (fs : FS) {table : String} {base : Option String} {sp : String} (ht : table ≠ "")
    (hb : ∀ b, base = some b → strlen b < MAX_TABLEFILE_SIZE) {pre : List String} {c : String}
    (hU : ∃ post, candidatesU table base sp = pre ++ c :: post)
    (hpre : ∀ a ∈ pre, strlen a < MAX_TABLEFILE_SIZE ∧ fs a ≠ FileKind.file)
    (hc : strlen c < MAX_TABLEFILE_SIZE) (hf : fs c = FileKind.file) :
    resolveSubtable fs table base sp = some c := by
  obtain ⟨post, hU⟩ := hU
  refine (resolve_some_iff fs table base sp c).2 ⟨isFile_iff.2 hf, pre, post.takeWhile short, ?_,
    fun a ha => Bool.eq_false_iff.2 (mt isFile_iff.1 (hpre a ha).2)⟩
  rw [candidates_eq_takeWhile table base sp ht hb, hU,
    List.takeWhile_append_of_pos (p := short) fun a ha => decide_eq_true (hpre a ha).1,
    List.takeWhile_cons_of_pos (p := short) (decide_eq_true hc)]

/-- **(1) a match relative to the including file's directory wins** over everything
    else, whatever else exists: the name as given, any search-path directory. -/
theorem base_dir_wins (fs : FS) (table b sp : String) (ht : table ≠ "")
    (hb : strlen b < MAX_TABLEFILE_SIZE) (hl : strlen (dirPrefix b) + strlen table < MAX_TABLEFILE_SIZE)
    (h : fs (dirPrefix b ++ table) = FileKind.file) :
    resolveSubtable fs table (some b) sp = some (dirPrefix b ++ table) :=
  resolve_first_fit fs ht (fun _ hb' => Option.some.inj hb' ▸ hb) (pre := []) ⟨_, rfl⟩ nofun
    (by rw [strlen, String.utf8ByteSize_append]; exact hl) h

theorem BaseMiss.pre {fs : FS} {table : String} {base : Option String} (hb : BaseMiss fs table base) :
    ∀ a ∈ (match base with | some b => [dirPrefix b ++ table] | none => []),
      strlen a < MAX_TABLEFILE_SIZE ∧ fs a ≠ FileKind.file := by
  cases base with
  | none => nofun
  | some b =>
    obtain ⟨_, h2, h3⟩ := hb b rfl
    exact List.forall_mem_singleton.2 ⟨by rw [strlen, String.utf8ByteSize_append]; exact h2, h3⟩

/-- **(2) the name as given** (absolute, or relative to the working directory — `fs`
    is applied to the very string) **wins over every search-path directory** when
    there is no match relative to the base. -/
theorem as_given_wins (fs : FS) (table : String) (base : Option String) (sp : String)
    (ht : table ≠ "") (hl : strlen table < MAX_TABLEFILE_SIZE) (hb : BaseMiss fs table base)
    (h : fs table = FileKind.file) :
    resolveSubtable fs table base sp = some table :=
  resolve_first_fit fs ht (fun b hb' => (hb b hb').1) ⟨_, List.append_assoc ..⟩ hb.pre hl h

/-- **(3) search-path directories in listed order.**  With no match relative to the
    base and none for the name as given, the entry `e` of the search path wins if
    `e/name` is a regular file and, for every entry listed BEFORE it, neither
    `d/name` nor `d/liblouis/tables/name` is.  What comes after `e` is irrelevant. -/
theorem path_order (fs : FS) (table : String) (base : Option String) (sp : String)
    (pre : List String) (e : String) (post : List String)
    (ht : table ≠ "") (hl : strlen table < MAX_TABLEFILE_SIZE) (hb : BaseMiss fs table base)
    (hg : fs table ≠ FileKind.file) (hs : sp ≠ "")
    (he : entries sp = pre ++ e :: post) (hpre : ∀ d ∈ pre, EntryMiss fs table d)
    (hle : strlen (cand1 table e) < MAX_TABLEFILE_SIZE) (h : fs (cand1 table e) = FileKind.file) :
    resolveSubtable fs table base sp = some (cand1 table e) := by
  -- `post` may be empty: `pathCandsU` tells `[e]` from `e :: _ :: _`, with `e/name` at the head of either
  obtain ⟨rest, hr⟩ : ∃ rest, pathCandsU table (e :: post) = cand1 table e :: rest := by
    cases post <;> exact ⟨_, rfl⟩
  refine resolve_first_fit fs ht (fun b hb' => (hb b hb').1) ⟨rest, ?_⟩
    (List.forall_mem_append.2 ⟨hb.pre, List.forall_mem_cons.2 ⟨⟨hl, hg⟩, entryMiss_both hpre⟩⟩) hle h
  unfold candidatesU
  rw [if_neg hs, he, pathCandsU_append, hr]
  simp only [List.append_assoc, List.cons_append, List.nil_append]

/-- (3′) the `liblouis/tables` variant of an entry that is NOT the last one ranks
    directly after the entry itself and before every later entry -/
theorem path_order_variant (fs : FS) (table : String) (base : Option String) (sp : String)
    (pre : List String) (e e' : String) (post : List String)
    (ht : table ≠ "") (hl : strlen table < MAX_TABLEFILE_SIZE) (hb : BaseMiss fs table base)
    (hg : fs table ≠ FileKind.file) (hs : sp ≠ "")
    (he : entries sp = pre ++ e :: e' :: post) (hpre : ∀ d ∈ pre, EntryMiss fs table d)
    (hle : strlen (cand2 table e) < MAX_TABLEFILE_SIZE)
    (h1 : fs (cand1 table e) ≠ FileKind.file) (h : fs (cand2 table e) = FileKind.file) :
    resolveSubtable fs table base sp = some (cand2 table e) := by
  refine resolve_first_fit fs ht (fun b hb' => (hb b hb').1) ⟨pathCandsU table (e' :: post), ?_⟩
    (List.forall_mem_append.2 ⟨hb.pre, List.forall_mem_cons.2 ⟨⟨hl, hg⟩,
      List.forall_mem_append.2 ⟨entryMiss_both hpre, List.forall_mem_singleton.2 ⟨strlen_cand1_lt hle, h1⟩⟩⟩⟩) hle h
  unfold candidatesU
  rw [if_neg hs, he, pathCandsU_append, pathCandsU]
  simp only [List.append_assoc, List.cons_append, List.nil_append]

/-- the property's "LOUIS_TABLEPATH directories in listed order", end to end through `_lou_getTablePath`: they
    head the search path -/
theorem tablepath_dirs_first (env : String) (dp : Option String) (td : String) (henv : env ≠ "") :
    ∃ rest, entries (getTablePath (some env) dp td) = entries env ++ rest := by
  rw [searchpath_order]
  simp only [nonEmpty?, henv, if_false, List.append_nil]
  exact ⟨_, rfl⟩

/-- the "including file's directory": for a base `d/f` with no separator in `f` the
    candidate is `d/` ++ name -/
theorem dirPrefix_dir_file (d f : String) (hf : f.toList.any isSep = false) :
    dirPrefix (d ++ "/" ++ f) = d ++ "/" := by
  apply String.toList_inj.mp
  have : (d ++ "/" ++ f).toList = d.toList ++ '/' :: f.toList := by simp [String.toList_append]
  simp [dirPrefix, this, dirPrefixL_append_sep _ _ hf, String.toList_append]

/-- a base without any separator has the empty directory: the candidate relative to
    it is the name as given (this is what happens to the 2nd… members of a list whose
    first member is a plain name found on the search path) -/
theorem dirPrefix_plain (f : String) (hf : f.toList.any isSep = false) : dirPrefix f = "" := by
  apply String.toList_inj.mp
  have : ∀ l : List Char, l.any isSep = false → dirPrefixL l = [] := by
    intro l hl
    cases l with
    | nil => rfl
    | cons c cs =>
      simp only [List.any_cons, Bool.or_eq_false_iff] at hl
      simp [dirPrefixL, hl.1, hl.2]
  simp [dirPrefix, this _ hf]

/-- the file system of the examples below: `files` are regular files, `dirs` directories, nothing else exists -/
def fsOf (files dirs : List String) : FS := fun p =>
  if p ∈ files then .file else if p ∈ dirs then .dir else .none

/-- (P) without `Fits` is false: if the first search-path entry is so long
    that `dir/name` reaches 4096 bytes, resolution is abandoned, whatever the second entry holds — and `e₂/name` is
    on the explicit list. -/
theorem overflow_hides_later_candidate (fs : FS) (table e₁ e₂ : String) (rest : List String)
    (ht : table ≠ "") (hl : strlen table < MAX_TABLEFILE_SIZE) (hg : fs table ≠ FileKind.file)
    (hlong : strlen (dirOf e₁) + strlen table + 1 ≥ MAX_TABLEFILE_SIZE)
    (sp : String) (hs : sp ≠ "") (he : entries sp = e₁ :: e₂ :: rest) :
    resolveSubtable fs table none sp = none ∧ cand1 table e₂ ∈ candidatesU table none sp := by
  constructor
  · rw [resolve_precedence, candidates, if_neg ht, tailCands, if_neg (Nat.not_le.2 hl), if_neg hs, he, pathCands,
      if_pos hlong, List.find?_cons_of_neg (mt isFile_iff.1 hg)]
    rfl
  · simp only [candidatesU, hs, if_false, he]
    cases rest <;> simp [pathCandsU]

example : resolveSubtable (fsOf ["/d/x", "x", "/p1/x", "/p2/x"] []) "x" (some "/d/main.ctb") "/p1,/p2" = some "/d/x" := by decide +kernel
example : resolveSubtable (fsOf ["x", "/p1/x", "/p2/x"] ["/d/x"]) "x" (some "/d/main.ctb") "/p1,/p2" = some "x" := by decide +kernel
example : resolveSubtable (fsOf ["/p1/x", "/p2/x"] []) "x" (some "/d/main.ctb") "/p1,/p2" = some "/p1/x" := by decide +kernel
example : resolveSubtable (fsOf ["/p1/liblouis/tables/x", "/p2/x"] []) "x" (some "/d/main.ctb") "/p1,/p2" = some "/p1/liblouis/tables/x" := by decide +kernel
example : resolveSubtable (fsOf ["/p2/x"] []) "x" (some "/d/main.ctb") "/p1,/p2" = some "/p2/x" := by decide +kernel
/-- the last entry has no `liblouis/tables` variant -/
example : resolveSubtable (fsOf ["/p2/liblouis/tables/x"] []) "x" (some "/d/main.ctb") "/p1,/p2" = none := by decide +kernel
/-- an absolute name is still first tried *below* the base directory, by plain concatenation -/
example : resolveSubtable (fsOf ["/d//abs/x", "/abs/x"] []) "/abs/x" (some "/d/main.ctb") "/p1" = some "/d//abs/x" := by decide +kernel
/-- backslash ends the base directory too -/
example : dirPrefix "d\\main.ctb" = "d\\" := by decide +kernel
/-- an empty entry is "." -/
example : candidatesU "x" none "/p1,,/p2" = ["x", "/p1/x", "/p1/liblouis/tables/x", "./x", "./liblouis/tables/x", "/p2/x"] := by decide +kernel
example : candidates "x" (some "/d/m") "/p1,/p2" = ["/d/x", "x", "/p1/x", "/p1/liblouis/tables/x", "/p2/x"] := by decide +kernel
example : Fits "x" (some "/d/m") "/p1,/p2" := ⟨fun b hb => by cases hb; decide, by decide +kernel⟩
/-- list: the second member is looked up beside the first member's NAME, not beside the file found for it -/
example : (defaultTableResolver (fsOf ["/p1/main.ctb", "/p1/x", "x"] []) (some "/p1") none "/td" "main.ctb,x" none).files
    = some ["/p1/main.ctb", "x"] := by decide +kernel
example : (defaultTableResolver (fsOf ["/d/main.ctb", "/d/x", "x"] []) (some "/p1") none "/td" "/d/main.ctb,x" none).files
    = some ["/d/main.ctb", "/d/x"] := by decide +kernel
/-- one missing member fails the whole list, with two ERROR messages when LOUIS_TABLEPATH is set -/
example : defaultTableResolver (fsOf ["/d/main.ctb"] []) (some "/p1") none "/td" "/d/main.ctb,x" none
    = { files := none, log := [(LOG_ERROR, "Cannot resolve table 'x'"), (LOG_ERROR, "LOUIS_TABLEPATH=/p1")] } := by decide +kernel
example : getTablePath (some "/p1,/p2") (some "/dp") "/td" = "/p1,/p2,/dp/liblouis/tables" := by decide +kernel
example : getTablePath none (some "/dp") "/td" = "/dp/liblouis/tables,/td" := by decide +kernel

end Lou.C20
