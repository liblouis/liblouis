/-
  C08 — results are a pure function of table sources and arguments: a translation, back-translation, hyphenation or
  character/dot conversion call answers after any history of calls as it does in a fresh process.

  What the code forces on the statement:
  * `lou_compileString` changes a cached table by design, so the history may not add rules to the list the call
    uses (`noAddTo`);
  * `lou_compileString` itself is not such a call: a list that has been used refuses further rules
    (`compileString_refused_after_use`), and its independence from unrelated calls rests on `compileString` zeroing
    errorCount at its entry (F7: `compileString_needs_counter_reset`, `compileString_uncached_fresh`);
  * the engines are parameters; the hypothesis is `Sem.Pure`: no engine reads the ambient (stale scratch contents,
    allocator sizes, remembered search starts).  That no OTHER state exists is `statics_covered`: every static of
    the C sources is in the classification, by evaluation over the inventory generated from clang's AST — a new
    static breaks the proof.
-/
import LouModel.Lib
import LouProofs.Lemmas.Strings

namespace Lou.C08

open Lou.Lib Lou.Gen.Statics

/-- The hand-written classification has exactly the entries of the generated
    inventory (same objects, same order): nothing unclassified, nothing stale -/
theorem statics_covered :
    classification.map (fun c => (c.file, c.func, c.name)) = statics.map (fun v => (v.file, v.func, v.name)) := by
  -- `rfl`, not `decide`: the kernel meets the same literals on both sides, where `String.decEq` would UTF-8-encode
  -- both and compare the bytes
  rfl

/-- Every classification agrees with what the extractor saw: const objects are
    const-qualified, never-written ones have no assignment / address-of / bare-argument occurrence, the
    resetting function of a reset-before-use static is among its writers, size variables and scratch
    pointers are written by `_lou_allocMem` and `lou_free` only, the chains by `getTable` and `lou_free`
    only, logger state by the logging functions only, a search start by its own function only -/
theorem classification_sound : allAgree statics classification = true := by
  decide +kernel

example : (classification.filter fun c => match c.kind with | .compileCounter _ => true | _ => false).map (·.name) =
    ["errorCount", "fileCount", "warningCount"] := by decide +kernel

/-- The table `getOpcode` searches has no duplicates (also not up to case, for
    the `strcasecmp` of `_lou_findOpcodeNumber`) -/
theorem opcodeNames_nodup : opcodeNames.Nodup ∧ (opcodeNames.map String.toLower).Nodup :=
  have h := Strings.nodup_toLower (l := opcodeNames) (by decide +kernel)
  ⟨h.of_map _ fun _ _ hab e => hab (congrArg _ e), h⟩

theorem find?_perm_unique {α : Type} (p : α → Bool) {l l' : List α} (hp : l.Perm l')
    (hu : ∀ a b, a ∈ l → b ∈ l → p a = true → p b = true → a = b) : l.find? p = l'.find? p := by
  cases h : l.find? p with
  | none => exact (List.find?_eq_none.2 fun x hx => List.find?_eq_none.1 h x (hp.mem_iff.2 hx)).symm
  | some a =>
    have ha := List.mem_of_find?_eq_some h
    have hpa := List.find?_some h
    cases h' : l'.find? p with
    | none => exact absurd hpa (List.find?_eq_none.1 h' a (hp.mem_iff.1 ha))
    | some b => rw [hu a b ha (hp.mem_iff.2 (List.mem_of_find?_eq_some h')) hpa (List.find?_some h')]

theorem visitOrder_perm (n start : Nat) (h : start ≤ n) : (visitOrder n start).Perm (visitOrder n 0) := by
  have hn : List.range' 0 start ++ List.range' start (n - start) = List.range' 0 n := by
    simpa only [Nat.zero_add, Nat.add_sub_cancel' h] using List.range'_append_1 (s := 0) (m := start) (n := n - start)
  unfold visitOrder
  rw [List.range'_zero, List.append_nil, Nat.sub_zero, ← hn]
  exact List.perm_append_comm

/-- Over a duplicate-free name table the circular search finds the same
    opcode (or none) from every start — the static `lastOpcode` cannot change a result -/
theorem searchStart_irrelevant (names : List String) (hn : names.Nodup) (start : Nat) (hs : start ≤ names.length)
    (tok : String) : findFrom names start tok = findFrom names 0 tok := by
  unfold findFrom
  apply find?_perm_unique _ (visitOrder_perm _ _ hs)
  intro a b _ _ ha hb
  simp only [beq_iff_eq] at ha hb
  obtain ⟨hla, _⟩ := List.getElem?_eq_some_iff.1 ha
  exact (List.getElem?_inj hla hn).mp (ha.trans hb.symm)

theorem getOpcode_start_irrelevant (start : Nat) (hs : start ≤ opcodeNames.length) (tok : String) :
    findFrom opcodeNames start tok = findFrom opcodeNames 0 tok :=
  searchStart_irrelevant _ opcodeNames_nodup.1 start hs tok

example : findFrom opcodeNames 57 "include" = some 0 ∧ findFrom opcodeNames 0 "include" = some 0 ∧
          findFrom opcodeNames 116 "nosuchopcode" = none := by decide +kernel

section Machine

variable {FS T D : Type} (sem : Sem FS T D) (fs : FS)

/-- the ambient of a fresh process; `Sem.Pure` carries what is stated with it (`GoodT`, `GoodD`, `freshBoth`) to any
    other -/
def freshAmb : Ambient := {}

/-- a cached translation table is what a fresh process compiles (and, once used, finalizes) -/
def GoodT (e : TrEntry T) : Prop :=
  ∃ t0, sem.compile fs freshAmb e.name = some t0 ∧
    (if e.finalized then sem.finalize freshAmb t0 = some e.table else e.table = t0)

def GoodD (e : DispEntry D) : Prop := sem.compileDisp fs freshAmb e.name = some e.table

/-- the invariant, for the one list `n0` the theorem is about; `both`: `getTable` enters a translation table only
    together with, or after, the display table of the same list.  True because no constructor of `Call` loads a
    translation table alone (`_lou_getTranslationTable`, a `_lou_translate` with two different lists are not modelled):
    such a call would make the `some t, none` arm of `getBoth` reachable -/
structure ChainInv (n0 : Name) (ct : List (TrEntry T)) (cd : List (DispEntry D)) : Prop where
  tr : ∀ e ∈ ct, e.name = n0 → GoodT sem fs e
  disp : ∀ e ∈ cd, e.name = n0 → GoodD sem fs e
  both : ∀ n, (findT ct n).isSome = true → (findD cd n).isSome = true

/-- reads the two chains only: what a call does to the ambient, to errorCount or to the log level keeps it by
    unfolding (the `exact h`, `exact hi` below, on states that differ from that of `h` in those fields, rest on this:
    with a `structure` here they fail) -/
def Inv (n0 : Name) (s : LibState T D) : Prop := ChainInv sem fs n0 s.tr s.disp

-- The two chains differ in the type of their entries only: lookup and replacement are treated once, for any type
-- with a name, and the facts hold of `findT`/`setT` and `findD`/`setD` by unfolding.
theorem find_some {α : Type} {name : α → Name} {c : List α} {n : Name} {e : α}
    (h : c.find? (name · == n) = some e) : e ∈ c ∧ name e = n :=
  ⟨List.mem_of_find?_eq_some h, by simpa using List.find?_some h⟩

theorem find_cons {α : Type} {name : α → Name} (c : List α) (e : α) (n : Name) :
    ((e :: c).find? (name · == n)).isSome = (name e == n || (c.find? (name · == n)).isSome) := by
  rw [List.find?_cons]
  cases name e == n <;> simp

theorem find_set {α : Type} {name : α → Name} (c : List α) (n : Name) (e : α) (he : name e = n) (k : Name) :
    ((c.map fun x => if name x == n then e else x).find? (name · == k)).isSome = (c.find? (name · == k)).isSome := by
  rw [List.find?_map, Option.isSome_map]
  congr 2
  funext x
  by_cases hx : (name x == n) = true
  · rw [Function.comp_apply, if_pos hx, he, eq_of_beq hx]
  · rw [Function.comp_apply, if_neg hx]

theorem forall_set {α : Type} {name : α → Name} {P : α → Prop} {c : List α} {n n0 : Name} {e : α}
    (h : ∀ x ∈ c, name x = n0 → P x) (he : name e = n) (hg : n = n0 → P e) :
    ∀ x ∈ c.map (fun y => if name y == n then e else y), name x = n0 → P x := by
  intro x hx
  obtain ⟨y, hy, rfl⟩ := List.mem_map.mp hx
  by_cases hyn : (name y == n) = true
  · rw [if_pos hyn]; exact fun hen => hg (he.symm.trans hen)
  · rw [if_neg hyn]; exact h y hy

theorem findT_cons (c : List (TrEntry T)) (e : TrEntry T) (n : Name) :
    (findT (e :: c) n).isSome = (e.name == n || (findT c n).isSome) := find_cons c e n

theorem findD_cons (c : List (DispEntry D)) (e : DispEntry D) (n : Name) :
    (findD (e :: c) n).isSome = (e.name == n || (findD c n).isSome) := find_cons c e n

theorem findT_setT (c : List (TrEntry T)) (n : Name) (e : TrEntry T) (he : e.name = n) (k : Name) :
    (findT (setT c n e) k).isSome = (findT c k).isSome := find_set c n e he k

theorem findD_setD (c : List (DispEntry D)) (n : Name) (e : DispEntry D) (he : e.name = n) (k : Name) :
    (findD (setD c n e) k).isSome = (findD c k).isSome := find_set c n e he k

variable {sem fs} {n0 : Name} {ct : List (TrEntry T)} {cd : List (DispEntry D)}

theorem ChainInv.consD (h : ChainInv sem fs n0 ct cd) (e : DispEntry D) (he : e.name = n0 → GoodD sem fs e) :
    ChainInv sem fs n0 ct (e :: cd) :=
  ⟨h.tr, List.forall_mem_cons.2 ⟨he, h.disp⟩, fun k hk => by rw [findD_cons, h.both k hk, Bool.or_true]⟩

theorem ChainInv.consT (h : ChainInv sem fs n0 ct cd) (e : TrEntry T) (he : e.name = n0 → GoodT sem fs e)
    (hd : (findD cd e.name).isSome = true) : ChainInv sem fs n0 (e :: ct) cd := by
  refine ⟨List.forall_mem_cons.2 ⟨he, h.tr⟩, h.disp, fun k hk => ?_⟩
  rw [findT_cons] at hk
  cases hek : e.name == k
  · rw [hek] at hk; exact h.both k hk
  · rw [← eq_of_beq hek]; exact hd

theorem ChainInv.setT (h : ChainInv sem fs n0 ct cd) {n : Name} (e : TrEntry T) (he : e.name = n)
    (hg : n = n0 → GoodT sem fs e) : ChainInv sem fs n0 (setT ct n e) cd :=
  ⟨forall_set h.tr he hg, h.disp, fun k hk => h.both k (by rwa [findT_setT ct n e he k] at hk)⟩

theorem ChainInv.setD (h : ChainInv sem fs n0 ct cd) {n : Name} (e : DispEntry D) (he : e.name = n)
    (hg : n = n0 → GoodD sem fs e) : ChainInv sem fs n0 ct (setD cd n e) :=
  ⟨h.tr, forall_set h.disp he hg, fun k hk => by rw [findD_setD cd n e he k]; exact h.both k hk⟩

variable (sem fs)

theorem init_inv (n0 : Name) : Inv sem fs n0 (LibState.init : LibState T D) := ⟨nofun, nofun, nofun⟩

/-- what a fresh process hands to the engines for list `n` -/
def freshBoth (n : Name) : Option T × Option D :=
  if n = [] then (none, none) else
  match sem.compile fs freshAmb n, sem.compileDisp fs freshAmb n with
  | some t0, some d0 => (sem.finalize freshAmb t0, some d0)
  | _, _ => (none, none)

def freshDisp (n : Name) : Option D := if n = [] then none else sem.compileDisp fs freshAmb n

theorem getBoth_inv (hp : sem.Pure) (n0 : Name) (s : LibState T D) (n : Name) (h : Inv sem fs n0 s) (hn : n ≠ []) :
    Inv sem fs n0 (getBoth sem fs s n).1 ∧
    (getBoth sem fs s n).2 = (findT (getBoth sem fs s n).1.tr n, findD (getBoth sem fs s n).1.disp n) ∧
    ((getBoth sem fs s n).2.1 = none → sem.compile fs freshAmb n = none ∨ sem.compileDisp fs freshAmb n = none) := by
  unfold getBoth
  rw [if_neg hn, hp.compile fs s.amb freshAmb, hp.compileDisp fs s.amb freshAmb]
  cases ht : findT s.tr n with
  | some t =>
    cases hd : findD s.disp n with
    | none => have := h.both n (by rw [ht]; rfl); rw [hd] at this; cases this
    | some d => exact ⟨h, by rw [ht, hd], nofun⟩
  | none =>
    cases hd : findD s.disp n with
    | none =>
      dsimp only
      cases hc : sem.compile fs freshAmb n with
      | none => exact ⟨h, by rw [ht, hd], fun _ => .inl rfl⟩
      | some t0 =>
        cases hcd : sem.compileDisp fs freshAmb n with
        | none => exact ⟨h, by rw [ht, hd], fun _ => .inr rfl⟩
        | some d0 =>
          refine ⟨(h.consD ⟨n, d0⟩ fun _ => hcd).consT ⟨n, t0, false⟩ (fun _ => ⟨t0, hc, rfl⟩) ?_, ?_, nofun⟩
          · rw [findD_cons, beq_self_eq_true]; rfl
          · simp [findT, findD]
    | some d =>
      dsimp only
      cases hc : sem.compile fs freshAmb n with
      | none => exact ⟨h, by rw [ht, hd], fun _ => .inl rfl⟩
      | some t0 =>
        refine ⟨h.consT ⟨n, t0, false⟩ (fun _ => ⟨t0, hc, rfl⟩) (by rw [hd]; rfl), ?_, nofun⟩
        simp [findT, hd]

/-- the table `_lou_getTable` hands to the engines for a cached entry -/
def finalOf (e : TrEntry T) : Option T := if e.finalized then some e.table else sem.finalize freshAmb e.table

theorem getBothFinal_cases (hp : sem.Pure) (s : LibState T D) (n : Name) :
    (getBothFinal sem fs s n).2 =
      ((getBoth sem fs s n).2.1.bind (finalOf sem), (getBoth sem fs s n).2.2.map (·.table)) ∧
    ((getBothFinal sem fs s n).1 = (getBoth sem fs s n).1 ∨
      ∃ e t', (getBoth sem fs s n).2.1 = some e ∧ e.finalized = false ∧ sem.finalize freshAmb e.table = some t' ∧
        (getBothFinal sem fs s n).1 =
          { (getBoth sem fs s n).1 with tr := setT (getBoth sem fs s n).1.tr n ⟨n, t', true⟩ }) := by
  unfold getBothFinal finalOf
  generalize getBoth sem fs s n = r
  dsimp only
  cases r.2.1 with
  | none => exact ⟨rfl, .inl rfl⟩
  | some e =>
    dsimp only [Option.bind_some]
    rw [hp.finalize r.1.amb freshAmb]
    by_cases hfin : e.finalized = true
    · rw [if_pos hfin, if_pos hfin]; exact ⟨rfl, .inl rfl⟩
    · rw [if_neg hfin, if_neg hfin]
      cases hf : sem.finalize freshAmb e.table with
      | none => exact ⟨rfl, .inl rfl⟩
      | some t' => exact ⟨rfl, .inr ⟨e, t', rfl, Bool.eq_false_iff.2 hfin, hf, rfl⟩⟩

theorem Inv.fresh {s : LibState T D} {n : Name} (h : Inv sem fs n s) (hn : n ≠ []) {e : TrEntry T}
    (he : findT s.tr n = some e) :
    ∃ de, findD s.disp n = some de ∧ freshBoth sem fs n = (finalOf sem e, some de.table) := by
  obtain ⟨de, hde⟩ := Option.isSome_iff_exists.1 (h.both n (by rw [he]; rfl))
  obtain ⟨hem, hen⟩ := find_some he
  obtain ⟨hdm, hdn⟩ := find_some hde
  obtain ⟨t0, h1, h2⟩ := h.tr e hem hen
  have h3 : sem.compileDisp fs freshAmb de.name = some de.table := h.disp de hdm hdn
  rw [hen] at h1; rw [hdn] at h3
  refine ⟨de, hde, ?_⟩
  unfold freshBoth finalOf
  rw [if_neg hn, h1, h3]
  dsimp only
  by_cases hfin : e.finalized = true
  · rw [if_pos hfin] at h2 ⊢; rw [h2]
  · rw [if_neg hfin] at h2 ⊢; rw [h2]

theorem getBothFinal_inv (hp : sem.Pure) (n0 : Name) (s : LibState T D) (n : Name) (h : Inv sem fs n0 s) :
    Inv sem fs n0 (getBothFinal sem fs s n).1 ∧
    (n = n0 → (getBothFinal sem fs s n).2.1 = (freshBoth sem fs n).1 ∧
      ((getBothFinal sem fs s n).2.1.isSome = true → (getBothFinal sem fs s n).2.2 = (freshBoth sem fs n).2)) := by
  by_cases hn : n = []
  · subst hn; exact ⟨h, fun _ => ⟨rfl, nofun⟩⟩
  obtain ⟨hi, hr, hnone⟩ := getBoth_inv sem fs hp n0 s n h hn
  obtain ⟨hg, hst⟩ := getBothFinal_cases sem fs hp s n
  generalize getBoth sem fs s n = r at *
  constructor
  · rcases hst with h1 | ⟨e, t', he, hfin, hf, h1⟩
    · rw [h1]; exact hi
    · -- the entry finalized in place was good, and `t'` is what `finalize` makes of its table
      rw [h1]
      refine hi.setT ⟨n, t', true⟩ rfl fun hn0 => ?_
      obtain ⟨hem, hen⟩ := find_some (show findT r.1.tr n = some e by rw [← he, hr])
      obtain ⟨t0, h1, h2⟩ := hi.tr e hem (hen.trans hn0)
      rw [hfin] at h2
      exact ⟨t0, hen ▸ h1, h2 ▸ hf⟩
  · intro hn0
    subst hn0
    rw [hg]
    cases ht : r.2.1 with
    | none =>
      refine ⟨?_, nofun⟩
      unfold freshBoth
      rw [if_neg hn]
      rcases hnone ht with hc | hc
      · rw [hc]; rfl
      · rw [hc]; cases sem.compile fs freshAmb n <;> rfl
    | some e =>
      obtain ⟨de, hde, hf⟩ := hi.fresh sem fs hn (show findT r.1.tr n = some e by rw [← ht, hr])
      rw [hf, show r.2.2 = some de by rw [hr]; exact hde]
      exact ⟨rfl, fun _ => rfl⟩

theorem getDispOnly_inv (hp : sem.Pure) (n0 : Name) (s : LibState T D) (n : Name) (h : Inv sem fs n0 s) :
    Inv sem fs n0 (getDispOnly sem fs s n).1 ∧
    (n = n0 → (getDispOnly sem fs s n).2 = freshDisp sem fs n) := by
  unfold getDispOnly freshDisp
  by_cases hn : n = []
  · rw [if_pos hn, if_pos hn]; exact ⟨h, fun _ => rfl⟩
  rw [if_neg hn, if_neg hn, hp.compileDisp fs s.amb freshAmb]
  cases hd : findD s.disp n with
  | some d =>
    obtain ⟨hm, hname⟩ := find_some hd
    exact ⟨h, fun hn0 => (hname ▸ h.disp d hm (hname.trans hn0) : sem.compileDisp fs freshAmb n = some d.table).symm⟩
  | none =>
    cases hc : sem.compileDisp fs freshAmb n with
    | none => exact ⟨h, fun _ => rfl⟩
    | some d0 => exact ⟨h.consD ⟨n, d0⟩ fun _ => hc, fun _ => rfl⟩

theorem compileString_inv (hp : sem.Pure) (b : Bool) (n0 : Name) (s : LibState T D) (n : Name) (rule : List Nat)
    (h : Inv sem fs n0 s) (hn : n ≠ n0) : Inv sem fs n0 (compileString b sem fs s n rule).1 := by
  by_cases hne : n = []
  · subst hne; exact h
  have hi := (getBoth_inv sem fs hp n0 s n h hne).1
  unfold compileString
  generalize getBoth sem fs s n = r at *
  dsimp only
  cases r.2.1 with
  | none => exact hi
  | some e =>
    dsimp only
    have hs1 : Inv sem fs n0 (if b = true then { r.1 with errorCount := 0 } else r.1) := by
      split <;> exact hi
    generalize (if b = true then ({ r.1 with errorCount := 0 } : LibState T D) else r.1) = s1 at *
    split
    · exact hs1
    · split
      · exact hs1
      · rename_i t' d' _
        have ht := hs1.setT ⟨n, t', false⟩ rfl fun hh => absurd hh hn
        cases d' with
        | none => exact ht
        | some d => exact ht.setD ⟨n, d⟩ rfl fun hh => absurd hh hn

theorem step_inv (hp : sem.Pure) (b : Bool) (n0 : Name) (s : LibState T D) (c : Call) (h : Inv sem fs n0 s)
    (hc : noAddTo n0 [c] = true) : Inv sem fs n0 (stepWith b sem fs s c).1 := by
  cases c with
  | translate n _ | backTranslate n _ | hyphenate n _ _ => exact (getBothFinal_inv sem fs hp n0 s n h).1
  | charToDots n _ _ | dotsToChar n _ _ => exact (getDispOnly_inv sem fs hp n0 s n h).1
  | compileString n rule => exact compileString_inv sem fs hp b n0 s n rule h (bne_iff_ne.mp (Bool.and_eq_true_iff.mp hc).1)
  | free => exact init_inv sem fs n0
  | setLogLevel l => exact h

theorem run_inv (hp : sem.Pure) (b : Bool) (n0 : Name) (hist : List Call) (hh : noAddTo n0 hist = true) :
    ∀ s : LibState T D, Inv sem fs n0 s → Inv sem fs n0 (runWith b sem fs s hist) := by
  induction hist with
  | nil => exact fun s h => h
  | cons c cs ih =>
    have hc : noAddTo n0 [c] = true ∧ noAddTo n0 cs = true := by
      cases c with
      | compileString m r =>
        obtain ⟨h1, h2⟩ := Bool.and_eq_true_iff.mp hh
        exact ⟨Bool.and_eq_true_iff.mpr ⟨h1, rfl⟩, h2⟩
      | _ => exact ⟨rfl, hh⟩
    exact fun s h => ih hc.2 _ (step_inv sem fs hp b n0 s c h hc.1)

/-- After ANY history that adds no run-time rule to list `n`, whatever the
    caches hold for `n` is what a fresh process would compile from the same files (finalized or not) -/
theorem cached_is_compiled (hp : sem.Pure) (n : Name) (hist : List Call) (hh : noAddTo n hist = true) :
    Inv sem fs n (run sem fs (LibState.init : LibState T D) hist) :=
  run_inv sem fs hp true n hist hh _ (init_inv sem fs n)

theorem query_fresh (hp : sem.Pure) (b : Bool) (s s' : LibState T D) (c : Call) (hq : c.isQuery = true)
    (h : ∀ n, c.list? = some n → Inv sem fs n s) (h' : ∀ n, c.list? = some n → Inv sem fs n s') :
    (stepWith b sem fs s c).2 = (stepWith b sem fs s' c).2 := by
  cases c with
  | translate n _ | backTranslate n _ | hyphenate n _ _ =>
    obtain ⟨e1, e2⟩ := (getBothFinal_inv sem fs hp n s n (h n rfl)).2 rfl
    obtain ⟨f1, f2⟩ := (getBothFinal_inv sem fs hp n s' n (h' n rfl)).2 rfl
    -- both sides hand the engines what a fresh process would
    have g1 := e1.trans f1.symm
    simp only [stepWith, g1]
    cases hx : (getBothFinal sem fs s' n).2.1 with
    | none => rfl
    | some t =>
      rw [e2 (by rw [g1, hx]; rfl), ← f2 (by rw [hx]; rfl)]
      simp only [hp.translate s.amb s'.amb, hp.backTranslate s.amb s'.amb, hp.hyphenate s.amb s'.amb]
  | charToDots n _ _ | dotsToChar n _ _ =>
    simp only [stepWith, (getDispOnly_inv sem fs hp n s n (h n rfl)).2 rfl,
      ← (getDispOnly_inv sem fs hp n s' n (h' n rfl)).2 rfl, hp.charToDots s.amb s'.amb, hp.dotsToChar s.amb s'.amb]
  | _ => cases hq

/-- A translation, back-translation, hyphenation or conversion call `c` answers after any
    history of API calls (such calls with any tables, inputs, modes and sizes, `lou_free`, log-level changes,
    `lou_compileString` on OTHER lists) as it does in a fresh process, for engines that read only their declared
    inputs.  The file system is the same `fs` on both sides: the table files do not change. -/
theorem history_irrelevant (hp : sem.Pure) (hist : List Call) (c : Call) (hq : c.isQuery = true)
    (hadd : ∀ n, c.list? = some n → noAddTo n hist = true) :
    (step sem fs (run sem fs (LibState.init : LibState T D) hist) c).2 =
    (step sem fs (LibState.init : LibState T D) c).2 :=
  query_fresh sem fs hp true _ _ c hq (fun n hn => cached_is_compiled sem fs hp n hist (hadd n hn))
    fun n _ => init_inv sem fs n

/-- Two histories (e.g. the same calls in two orders, or with `lou_free` inserted
    anywhere) give the same result for the call that follows -/
theorem order_irrelevant (hp : sem.Pure) (h1 h2 : List Call) (c : Call) (hq : c.isQuery = true)
    (a1 : ∀ n, c.list? = some n → noAddTo n h1 = true) (a2 : ∀ n, c.list? = some n → noAddTo n h2 = true) :
    (step sem fs (run sem fs (LibState.init : LibState T D) h1) c).2 =
    (step sem fs (run sem fs (LibState.init : LibState T D) h2) c).2 := by
  rw [history_irrelevant sem fs hp h1 c hq a1, history_irrelevant sem fs hp h2 c hq a2]

theorem compileString_congr (hp : sem.Pure) (s s' : LibState T D) (n : Name) (rule : List Nat)
    (h : (getBoth sem fs s n).2 = (getBoth sem fs s' n).2) :
    (compileString true sem fs s n rule).2 = (compileString true sem fs s' n rule).2 := by
  unfold compileString
  generalize getBoth sem fs s n = r at *
  generalize getBoth sem fs s' n = r' at *
  dsimp only
  rw [h]
  cases r'.2.1 with
  | none => rfl
  | some e =>
    rw [if_pos rfl, if_pos rfl]
    dsimp only
    rw [hp.addRule fs r.1.amb r'.1.amb]
    by_cases hf : e.finalized = true
    · rw [if_pos hf, if_pos hf]
    · rw [if_neg hf, if_neg hf]
      cases sem.addRule fs r'.1.amb e.table (r'.2.2.map (·.table)) rule <;> rfl

/-- with the counters zeroed at its entry, as `compileString` does, `lou_compileString` on a list that is not
    cached answers as in a fresh process — whatever errors earlier calls left behind -/
theorem compileString_uncached_fresh (hp : sem.Pure) (s : LibState T D) (n : Name) (rule : List Nat)
    (h1 : findT s.tr n = none) (h2 : findD s.disp n = none) :
    (compileString true sem fs s n rule).2 = (compileString true sem fs (LibState.init : LibState T D) n rule).2 := by
  have h : ∀ s' : LibState T D, findT s'.tr n = none → findD s'.disp n = none →
      (getBoth sem fs s n).2 = (getBoth sem fs s' n).2 := fun s' h1' h2' => by
    unfold getBoth
    rw [h1, h2, h1', h2', hp.compile fs s.amb s'.amb, hp.compileDisp fs s.amb s'.amb]
    by_cases hn : n = []
    · rw [if_pos hn, if_pos hn]
    · rw [if_neg hn, if_neg hn]
      cases sem.compile fs s'.amb n <;> cases sem.compileDisp fs s'.amb n <;> rfl
  exact compileString_congr sem fs hp s _ n rule (h _ rfl rfl)

end Machine

/-- a small concrete library: list `[1]` compiles, list `[2]` does not, rule `[9]` is an `include` -/
def toySem : Sem Unit Nat Nat where
  compile := fun _ _ n => if n = [1] then some 0 else none
  compileDisp := fun _ _ n => if n = [1] then some 0 else none
  finalize := fun _ t => some (t + 100)
  isInclude := fun r => r == [9]
  addRule := fun _ _ t d _ => some (t + 1, d)
  translate := fun _ t _ a => { ret := 1, inlen := a.inbuf.length, outlen := 0, outbuf := [t], typeform := none,
                                outputPos := none, inputPos := none, cursor := none }
  backTranslate := fun _ t _ a => { ret := 1, inlen := a.inbuf.length, outlen := 0, outbuf := [t], typeform := none,
                                    outputPos := none, inputPos := none, cursor := none }
  hyphenate := fun _ _ _ w _ => ⟨1, w⟩
  charToDots := fun _ _ i _ => ⟨1, i⟩
  dotsToChar := fun _ _ i _ => ⟨1, i⟩
  leftBehind := fun a _ => { a with stale := 7 :: a.stale }

theorem toySem_pure : toySem.Pure := by
  constructor <;> intros <;> rfl

def toyArgs : Drv.Args :=
  { inbuf := [97], outlen := 5, mode := 0, typeform := none, spacing := none, wantOutputPos := false,
    wantInputPos := false, cursor := none }

/-- F7, a witness on `toySem`: in the machine WITHOUT the reset of errorCount at the entry of
    `compileString` (the code as it was found) adding `include …` to a cached, not yet used list fails when a call
    that named a bad list came in between, and succeeds without that call; with the reset (the code as it is) it
    succeeds after that call too. -/
theorem compileString_needs_counter_reset :
    (stepWith false toySem () (runWith false toySem () LibState.init
        [.compileString [1] [5], .translate [2] toyArgs]) (.compileString [1] [9])).2 = .ok false ∧
    (stepWith false toySem () (runWith false toySem () LibState.init
        [.compileString [1] [5]]) (.compileString [1] [9])).2 = .ok true ∧
    (stepWith true toySem () (runWith true toySem () LibState.init
        [.compileString [1] [5], .translate [2] toyArgs]) (.compileString [1] [9])).2 = .ok true := by
  decide +kernel

/-- By design (C15), a witness on `toySem`: once a list has been used its table is finalized and
    `lou_compileString` is refused, so its outcome does depend on the history — which is why the property (and
    `history_irrelevant`) is about translation, back-translation, hyphenation and conversion calls -/
theorem compileString_refused_after_use :
    (step toySem () (run toySem () LibState.init [.translate [1] toyArgs]) (.compileString [1] [5])).2 = .ok false ∧
    (step toySem () LibState.init (.compileString [1] [5])).2 = .ok true := by
  decide +kernel

example :
    (step toySem () (run toySem () LibState.init
        [.translate [2] toyArgs, .charToDots [1] [1, 2] 0, .translate [1] toyArgs, .free, .setLogLevel 0,
         .hyphenate [1] [3] 0]) (.translate [1] toyArgs)).2 =
    (step toySem () LibState.init (.translate [1] toyArgs)).2 :=
  history_irrelevant toySem () toySem_pure _ _ rfl (by intro n hn; cases hn; rfl)

/-- `Sem.Pure` is needed: an engine that peeks at what the previous call left in a scratch buffer answers
    differently after a history -/
example :
    let peek : Sem Unit Nat Nat := { toySem with
      translate := fun amb t _ a => { ret := 1, inlen := a.inbuf.length, outlen := 0, outbuf := [t + amb.stale.length],
                                      typeform := none, outputPos := none, inputPos := none, cursor := none } }
    (step peek () (run peek () LibState.init [.translate [1] toyArgs]) (.translate [1] toyArgs)).2 ≠
    (step peek () LibState.init (.translate [1] toyArgs)).2 := by decide +kernel

end Lou.C08
