/-
  C11 — one-to-one tables round-trip exactly.  On a table that passes the structural test `isOneToOne` the forward
  main-pass model maps every string over the table's characters cell by cell through the characters' definitions (all
  input consumed, identity position map), and the backward main-pass model does the inverse.  The engine models are the
  transcriptions `Fwd.translate` / `Back.translate`, tied to the code by the differential of C05/C11 on dumped tables.
  Capacity is assumed sufficient (≥ the input length); the cursor plays no part (`fwd_onetoone_at`, `back_onetoone_at`:
  cells and maps do not depend on it).
-/
import LouModel.OneToOne
import LouProofs.Lemmas.Forward
import LouProofs.Lemmas.Backward
import LouProofs.Lemmas.Table

namespace Lou.C11
open Lou Lou.Gen Lou.OneToOne

/-- what the forward proof needs from the table, for the characters of one string -/
structure FwdHyp (t : Table) (cellOf : Nat → Nat) (s : List Nat) : Prop where
  noFor : ∀ h, t.forBucket h = []
  noNum : t.numberSign = none
  char : ∀ c ∈ s, ∃ r, (t.getChar c).chain = [r.idx] ∧ t.rule? r.idx = some r ∧ isDefOp r.opcode = true ∧
    r.dots = [cellOf c] ∧ r.chars.length = 1

theorem isDefOp_ne_numberSign_none (op : Nat) (h : isDefOp op = true) :
    (op == CTO_NumberSign) = false ∧ (op == CTO_None) = false := by
  unfold isDefOp at h
  simp only [Bool.and_eq_true, decide_eq_true_eq] at h
  have h1 : CTO_Space ≤ op := h.1.1
  have h2 : op < CTO_UpLow := h.1.2
  have a1 : CTO_NumberSign < CTO_Space := by decide
  have a3 : CTO_UpLow ≤ CTO_None := by decide
  refine ⟨?_, ?_⟩ <;> simp <;> omega

theorem select_onetoone (t : Table) (cellOf : Nat → Nat) (s : List Nat) (hy : FwdHyp t cellOf s)
    (mode : Nat) (dc : Bool) (pos before prev : Nat) (hp : pos < s.length) :
    ∃ r, Fwd.selectRule t mode dc s pos before prev = { opcode := r.opcode, rule := some r, charslen := r.chars.length } ∧
      isDefOp r.opcode = true ∧ r.dots = [cellOf (Fwd.inAt s pos)] ∧ r.chars.length = 1 := by
  have hin : Fwd.inAt s pos ∈ s := by
    unfold Fwd.inAt; rw [← List.getElem_eq_getD (h := hp)]; exact List.getElem_mem hp
  obtain ⟨r, hchain, hrule, hdef, hdots, hcl⟩ := hy.char _ hin
  refine ⟨r, Fwd.selectRule_of_char hp (by rw [hy.noFor]; rfl) ?_, hdef, hdots, hcl⟩
  rw [hchain]
  exact walk_cons_of_cand Fwd.walkChain_eq_find hrule (Fwd.opcodeAccepts_of_charDef (Bool.and_eq_true_iff.mp hdef).1 ..)

structure FInv (cellOf : Nat → Nat) (s : List Nat) (k : Nat) (st : Fwd.St) : Prop where
  pos : st.pos = k
  cells : st.out.cells = (s.take k).map cellOf
  map : st.out.map = (List.range k).map (fun (i : Nat) => (i : Int))

theorem step_onetoone (t : Table) (cellOf : Nat → Nat) (s : List Nat) (hy : FwdHyp t cellOf s)
    (mode maxlen : Nat) (hm : s.length ≤ maxlen) (k : Nat) (hk : k < s.length) (st : Fwd.St)
    (hi : FInv cellOf s k st) :
    (Fwd.step t mode s maxlen st).2 = false ∧ FInv cellOf s (k + 1) (Fwd.step t mode s maxlen st).1 := by
  obtain ⟨hpos, hcells, hmap⟩ := hi
  obtain ⟨r, hsel, hdef, hdots, hcl⟩ := select_onetoone t cellOf s hy mode st.dontContract st.pos
    (Fwd.beforeAttrs t s st.pos) st.prevOp (by omega)
  have hns : Fwd.insertNumberSign t s st.pos st.prevOp (Fwd.beforeAttrs t s st.pos) maxlen st.out = some st.out := by
    rcases Fwd.insertNumberSign_cases t s st.pos st.prevOp (Fwd.beforeAttrs t s st.pos) with h | ⟨ns, h, -⟩
    · exact h ..
    · rw [hy.noNum] at h
      cases h
  have hlen : st.out.cells.length = k := by
    rw [hcells, List.length_map, List.length_take, Nat.min_eq_left (Nat.le_of_lt hk)]
  obtain ⟨cp, cs, hup⟩ := Fwd.updatePositions_eq [cellOf (Fwd.inAt s st.pos)] 1 0 st.pos s maxlen st.out
  rw [if_neg (by simp only [List.length_singleton, Bool.or_eq_true, decide_eq_true_eq]; omega)] at hup
  rw [Fwd.step_eq, if_neg (by omega)]
  simp only [hsel, hns]
  rw [Fwd.emit_of_cells (r := r) (isDefOp_ne_numberSign_none _ hdef).2 rfl (by rw [hdots]; exact Nat.one_pos), hdots, hcl, hup]
  have hat : Fwd.inAt s k = s[k] := (List.getElem_eq_getD 0).symm
  refine ⟨rfl, ?_, ?_, ?_⟩
  · rw [Fwd.remember_pos, ← hpos]
  · rw [Fwd.remember_out]
    dsimp only
    rw [hcells, hpos, hat, List.take_succ_eq_append_getElem hk, List.map_append]; rfl
  · rw [Fwd.remember_out]
    dsimp only
    rw [hmap, hpos, List.range_succ, List.map_append]; rfl

theorem fwd_onetoone_at (t : Table) (cellOf : Nat → Nat) (s : List Nat) (hy : FwdHyp t cellOf s)
    (mode maxlen : Nat) (hm : s.length ≤ maxlen) (cpos cstat : Int) :
    (Fwd.translate t mode s maxlen cpos cstat).out = s.map cellOf ∧
    (Fwd.translate t mode s maxlen cpos cstat).realInlen = s.length ∧
    (Fwd.translate t mode s maxlen cpos cstat).map = (List.range s.length).map (fun (i : Nat) => (i : Int)) := by
  have h0 : FInv cellOf s 0 ({ out := { cpos := cpos, cstat := cstat } } : Fwd.St) := ⟨rfl, rfl, rfl⟩
  have hl := iter_count (f := Fwd.step t mode s maxlen) (FInv cellOf s) s.length
    (fun k st hk hi => step_onetoone t cellOf s hy mode maxlen hm k hk st hi)
    (fun st hi => by rw [Fwd.step_eq, if_pos hi.pos]; exact ⟨hi.pos, hi.cells, hi.map⟩)
    (s.length + 2) 0 _ h0 (Nat.zero_le _) (by omega)
  rw [← Fwd.loop_eq_iter] at hl
  rw [Fwd.translate_eq, Fwd.epilogue_of_end hl.pos]
  exact ⟨by rw [hl.cells, List.take_length], hl.pos, hl.map⟩

/-- C11, forward: cell by cell through the characters' definitions, everything consumed, identity map -/
theorem fwd_onetoone (t : Table) (cellOf : Nat → Nat) (s : List Nat) (hy : FwdHyp t cellOf s)
    (mode maxlen : Nat) (hm : s.length ≤ maxlen) :
    (Fwd.translate t mode s maxlen (-1) 1).out = s.map cellOf ∧
    (Fwd.translate t mode s maxlen (-1) 1).realInlen = s.length ∧
    (Fwd.translate t mode s maxlen (-1) 1).map = (List.range s.length).map (fun (i : Nat) => (i : Int)) :=
  fwd_onetoone_at t cellOf s hy mode maxlen hm (-1) 1

structure BackHyp (t : Table) (charOf : Nat → Nat) (d : List Nat) : Prop where
  noBack : ∀ h, t.backBucket h = []
  cell : ∀ x ∈ d, ∃ r, (t.getDots x).chain = [r.idx] ∧ t.rule? r.idx = some r ∧ isDefOp r.opcode = true ∧
    r.dots = [x] ∧ r.chars = [charOf x]

structure BInv (charOf : Nat → Nat) (d : List Nat) (k : Nat) (st : Back.St) : Prop where
  pos : st.pos = k
  chars : st.out.chars = (d.take k).map charOf
  map : st.out.map = (List.range k).map (fun (i : Nat) => some (i : Int))

theorem back_select_onetoone (t : Table) (charOf : Nat → Nat) (d : List Nat) (hy : BackHyp t charOf d)
    (mode : Nat) (ctx : Back.Ctx) (pos before prev : Nat) (hp : pos < d.length) :
    ∃ r, Back.selectRule t mode ctx d pos before prev = { opcode := r.opcode, rule := some r, dotslen := 1 } ∧
      isDefOp r.opcode = true ∧ r.dots = [Back.inAt d pos] ∧ r.chars = [charOf (Back.inAt d pos)] := by
  have hin : Back.inAt d pos ∈ d := by
    unfold Back.inAt; rw [← List.getElem_eq_getD (h := hp)]; exact List.getElem_mem hp
  obtain ⟨r, hchain, hrule, hdef, hdots, hchars⟩ := hy.cell _ hin
  have htake : List.take 1 (List.drop pos d) = [Back.inAt d pos] := by
    unfold Back.inAt
    rw [← List.getElem_eq_getD (h := hp), List.drop_eq_getElem_cons hp, List.take_succ_cons, List.take_zero]
  have hlen : r.dots.length = 1 := congrArg List.length hdots
  refine ⟨r, Back.selectRule_of_cell hp (by rw [hy.noBack]; rfl) ?_, hdef, hdots, hchars⟩
  rw [hchain, ← hlen]
  refine walk_cons_of_cand Back.walkChain_eq_find hrule ?_
  rw [Back.opcodeAccepts_of_charDef hdef, hdots, List.length_singleton, htake]
  simp only [Nat.le_refl, Nat.one_pos, decide_true, beq_self_eq_true, Bool.and_self]

theorem back_step_onetoone (t : Table) (charOf : Nat → Nat) (d : List Nat) (hy : BackHyp t charOf d)
    (mode maxlen : Nat) (hm : d.length ≤ maxlen) (k : Nat) (hk : k < d.length) (st : Back.St)
    (hi : BInv charOf d k st) :
    (Back.step t mode d maxlen st).2 = false ∧ BInv charOf d (k + 1) (Back.step t mode d maxlen st).1 := by
  obtain ⟨hpos, hchars, hmap⟩ := hi
  -- whatever the number state is: with no buckets the selection does not look at it
  obtain ⟨r, hsel, hdef, hdots, hrc⟩ := back_select_onetoone t charOf d hy mode (BackC.headCtx t st) st.pos
    (Back.beforeAttrs t st.out) st.prevOp (by omega)
  obtain ⟨f1, f3⟩ := isDefOp_ne_numberSign_none r.opcode hdef
  have hlen : st.out.chars.length = k := by
    rw [hchars, List.length_map, List.length_take, Nat.min_eq_left (Nat.le_of_lt hk)]
  obtain ⟨cp, cs, hup⟩ := Back.updatePositions_eq [charOf (Back.inAt d st.pos)] 1 st.pos d maxlen st.out
  rw [if_neg (by simp only [List.length_singleton, Bool.or_eq_true, decide_eq_true_eq]; omega), if_neg (by simp)] at hup
  have hset : (List.range 1).foldl (fun m k => Back.setMap m (st.pos + k) (st.out.chars.length : Int)) st.out.map =
      st.out.map ++ [some (k : Int)] := by
    rw [hlen]
    simpa [hmap, hpos] using Back.setMap_end st.out.map k
  rw [hset] at hup
  rw [Back.step_eq]
  simp only [hsel, f1, Bool.false_eq_true, if_false,
    Back.emitPlain_of_chars (sel := { opcode := r.opcode, rule := some r, dotslen := 1 }) f3 rfl
      (by rw [hrc]; exact Nat.one_pos), hrc, hdots, List.length_singleton, hup, Option.map_some, Back.finishC_eq]
  have hat : Back.inAt d k = d[k] := (List.getElem_eq_getD 0).symm
  refine ⟨trivial, by dsimp only; omega, ?_, ?_⟩
  · dsimp only
    rw [hchars, hpos, hat, List.take_succ_eq_append_getElem hk, List.map_append]; rfl
  · dsimp only
    rw [hmap, List.range_succ, List.map_append]; rfl

theorem back_onetoone_at (t : Table) (charOf : Nat → Nat) (d : List Nat) (hy : BackHyp t charOf d)
    (mode maxlen : Nat) (hm : d.length ≤ maxlen) (cpos : Int) :
    (Back.translate t mode d maxlen cpos).out = d.map charOf ∧
    (Back.translate t mode d maxlen cpos).realInlen = d.length ∧
    (Back.translate t mode d maxlen cpos).map = (List.range d.length).map (fun (i : Nat) => some (i : Int)) := by
  have h0 : BInv charOf d 0 ({ out := { cpos := cpos, cstat := 0 } } : Back.St) := ⟨rfl, rfl, rfl⟩
  have hl := iter_count (f := Back.stepG t mode d maxlen) (BInv charOf d) d.length
    (fun k st hk hi => by
      rw [Back.stepG_of_lt (by rw [hi.pos]; exact hk)]
      exact back_step_onetoone t charOf d hy mode maxlen hm k hk st hi)
    (fun st hi => by rw [Back.stepG_of_ge (Nat.le_of_eq hi.pos.symm)]; exact hi)
    (d.length + 1) 0 _ h0 (Nat.zero_le _) (by omega)
  rw [← Back.loop_eq_iter] at hl
  rw [Back.translate_eq, Back.epilogue_of_end hl.pos]
  refine ⟨by rw [hl.chars, List.take_length], hl.pos, ?_⟩
  rw [hl.map, hl.pos]
  exact List.take_of_length_le (by simp)

/-- C11, backward: the inverse, through the definitions of the cells -/
theorem back_onetoone (t : Table) (charOf : Nat → Nat) (d : List Nat) (hy : BackHyp t charOf d)
    (mode maxlen : Nat) (hm : d.length ≤ maxlen) :
    (Back.translate t mode d maxlen (-1)).out = d.map charOf ∧
    (Back.translate t mode d maxlen (-1)).realInlen = d.length ∧
    (Back.translate t mode d maxlen (-1)).map = (List.range d.length).map (fun (i : Nat) => some (i : Int)) :=
  back_onetoone_at t charOf d hy mode maxlen hm (-1)

/-- C11 for any two maps `cellOf`, `charOf` that the table's definitions realise on `s` and that undo each other there -/
theorem roundtrip_fwd_back (t : Table) (cellOf charOf : Nat → Nat) (s : List Nat)
    (hf : FwdHyp t cellOf s) (hb : BackHyp t charOf (s.map cellOf))
    (hinv : ∀ c ∈ s, charOf (cellOf c) = c) (m1 m2 cap : Nat) (hcap : s.length ≤ cap) :
    (Back.translate t m2 (Fwd.translate t m1 s cap (-1) 1).out cap (-1)).out = s := by
  rw [(fwd_onetoone t cellOf s hf m1 cap hcap).1,
    (back_onetoone t charOf (s.map cellOf) hb m2 cap (by rw [List.length_map]; exact hcap)).1, List.map_map]
  exact (List.map_congr_left hinv).trans (List.map_id s)

/-- the other order.  `onetoone_hyps` delivers `hb` only for the cells of a string of characters (`s.map (cellOfT t)`),
    so this one has no corollary from `isOneToOne` for an arbitrary string of the table's cells -/
theorem roundtrip_back_fwd (t : Table) (cellOf charOf : Nat → Nat) (d : List Nat)
    (hb : BackHyp t charOf d) (hf : FwdHyp t cellOf (d.map charOf))
    (hinv : ∀ x ∈ d, cellOf (charOf x) = x) (m1 m2 cap : Nat) (hcap : d.length ≤ cap) :
    (Fwd.translate t m1 (Back.translate t m2 d cap (-1)).out cap (-1) 1).out = d := by
  rw [(back_onetoone t charOf d hb m2 cap hcap).1,
    (fwd_onetoone t cellOf (d.map charOf) hf m1 cap (by rw [List.length_map]; exact hcap)).1, List.map_map]
  exact (List.map_congr_left hinv).trans (List.map_id d)

/-- the cell a one-to-one table assigns to a character / the character it assigns to a cell -/
def cellOfT (t : Table) (c : Nat) : Nat :=
  match (t.getChar c).chain.head?.bind t.rule? with
  | some r => r.dots.headD 0
  | none => 0

def charOfT (t : Table) (x : Nat) : Nat :=
  match (t.getDots x).chain.head?.bind t.rule? with
  | some r => r.chars.headD 0
  | none => 0

theorem charOK_unpack (t : Table) (cr : CharRec) (h : charOK t cr = true) :
    ∃ r d dr, cr.chain = [r.idx] ∧ t.rule? r.idx = some r ∧ isDefOp r.opcode = true ∧ r.chars = [cr.value] ∧
      r.dots = [d] ∧ t.dots? d = some dr ∧ dr.chain = [r.idx] := by
  unfold charOK at h
  split at h
  next i hchain =>
    split at h
    next r hr =>
      have hidx : r.idx = i := Table.rule?_idx hr
      simp only [Bool.and_eq_true, beq_iff_eq] at h
      have hd : isDefOp r.opcode = true := by simp only [h]
      have hc : r.chars = [cr.value] := by simp only [h]
      obtain ⟨-, hcell⟩ := h
      split at hcell
      next d hdots =>
        split at hcell
        next dr hdr =>
          simp only [Bool.and_eq_true, beq_iff_eq] at hcell
          exact ⟨r, d, dr, by rw [hchain, hidx], by rw [hidx]; exact hr, hd, hc, hdots, hdr, by rw [hcell.1, hidx]⟩
        · cases hcell
      · cases hcell
    · cases h
  · cases h

theorem onetoone_hyps (t : Table) (h : isOneToOne t = true) (s : List Nat)
    (hs : ∀ c ∈ s, (t.char? c).isSome = true) :
    FwdHyp t (cellOfT t) s ∧ BackHyp t (charOfT t) (s.map (cellOfT t)) ∧ ∀ c ∈ s, charOfT t (cellOfT t c) = c := by
  unfold isOneToOne at h
  simp only [Bool.and_eq_true] at h
  -- the four conjuncts of the test that the proof uses, taken out by what they say and not by where they stand
  have hforB : t.forB.all (·.2.isEmpty) = true := by simp only [h]
  have hbackB : t.backB.all (·.2.isEmpty) = true := by simp only [h]
  have hnum : t.numberSign.isNone = true := by simp only [h]
  have hchars : t.chars.all (charOK t) = true := by simp only [h]
  have hchar : ∀ c ∈ s, ∃ r, (t.getChar c).chain = [r.idx] ∧ (t.getDots (cellOfT t c)).chain = [r.idx] ∧
      t.rule? r.idx = some r ∧ isDefOp r.opcode = true ∧ r.chars = [c] ∧ r.dots = [cellOfT t c] := by
    intro c hc
    cases hcr : t.char? c with
    | none => have := hs c hc; rw [hcr] at this; cases this
    | some cr =>
      obtain ⟨r, d, dr, h1, h2, h3, h4, h5, h6, h7⟩ :=
        charOK_unpack t cr (List.all_eq_true.mp hchars cr (Table.char?_mem hcr))
      have hch : (t.getChar c).chain = [r.idx] := by rw [Table.getChar_some hcr]; exact h1
      have hd : cellOfT t c = d := by unfold cellOfT; simp [hch, h2, h5]
      refine ⟨r, hch, ?_, h2, h3, by rw [h4, Table.char?_value hcr], by rw [hd]; exact h5⟩
      rw [hd, Table.getDots_some h6]; exact h7
  have hinv : ∀ c ∈ s, charOfT t (cellOfT t c) = c := fun c hc => by
    obtain ⟨r, -, h2, h3, -, h5, -⟩ := hchar c hc
    unfold charOfT; simp [h2, h3, h5]
  refine ⟨⟨?_, by simpa using hnum, ?_⟩, ⟨?_, ?_⟩, hinv⟩
  · exact Table.forBucket_eq_nil fun b hb => List.isEmpty_iff.mp (List.all_eq_true.mp hforB b hb)
  · intro c hc
    obtain ⟨r, h1, -, h3, h4, h5, h6⟩ := hchar c hc
    exact ⟨r, h1, h3, h4, h6, by rw [h5]; rfl⟩
  · exact Table.backBucket_eq_nil fun b hb => List.isEmpty_iff.mp (List.all_eq_true.mp hbackB b hb)
  · intro x hx
    obtain ⟨c, hc, rfl⟩ := List.mem_map.mp hx
    obtain ⟨r, -, h2, h3, h4, h5, h6⟩ := hchar c hc
    exact ⟨r, h2, h3, h4, h6, by rw [h5, hinv c hc]⟩

/-- the property's statement: for a table passing the structural test and any string over its
    characters, back-translating the forward translation returns the string -/
theorem onetoone_roundtrip (t : Table) (h : isOneToOne t = true) (s : List Nat)
    (hs : ∀ c ∈ s, (t.char? c).isSome = true) (m1 m2 cap : Nat) (hcap : s.length ≤ cap) :
    (Back.translate t m2 (Fwd.translate t m1 s cap (-1) 1).out cap (-1)).out = s := by
  obtain ⟨hf, hb, hinv⟩ := onetoone_hyps t h s hs
  exact roundtrip_fwd_back t (cellOfT t) (charOfT t) s hf hb hinv m1 m2 cap hcap

/-- the position map of the forward main pass is the identity and all input is consumed: the engine's share of C07's
    last clause (the driver's `inputPos`/`outputPos` are not in the statement) -/
theorem onetoone_identity_maps (t : Table) (h : isOneToOne t = true) (s : List Nat)
    (hs : ∀ c ∈ s, (t.char? c).isSome = true) (m cap : Nat) (hcap : s.length ≤ cap) :
    (Fwd.translate t m s cap (-1) 1).map = (List.range s.length).map (fun (i : Nat) => (i : Int)) ∧
    (Fwd.translate t m s cap (-1) 1).realInlen = s.length := by
  obtain ⟨hf, _, _⟩ := onetoone_hyps t h s hs
  exact ⟨(fwd_onetoone t _ s hf m cap hcap).2.2, (fwd_onetoone t _ s hf m cap hcap).2.1⟩

/-- non-vacuity: a concrete table passes the test -/
example : isOneToOne {
    numPasses := 1, ruleCounter := 3,
    rules := [{ idx := 0, opcode := CTO_Space, chars := [0xffff], dots := [0xffff] },
              { idx := 1, opcode := CTO_LowerCase, chars := [97], dots := [0x8001] },
              { idx := 2, opcode := CTO_LowerCase, chars := [98], dots := [0x8003] }],
    chars := [{ value := 0xffff, attrs := 1, defRule := some 0, chain := [0] },
              { value := 97, attrs := 0x22, defRule := some 1, chain := [1] },
              { value := 98, attrs := 0x22, defRule := some 2, chain := [2] }],
    dots := [{ value := 0xffff, attrs := 1, defRule := some 0, chain := [0] },
             { value := 0x8001, attrs := 0x22, defRule := some 1, chain := [1] },
             { value := 0x8003, attrs := 0x22, defRule := some 2, chain := [2] }] } = true := by decide +kernel

end Lou.C11
