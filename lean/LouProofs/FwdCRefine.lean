/-
  The main pass with context rules (ForwardCtx.lean) restricted to tables WITHOUT context rules is the F0 main pass
  (Forward.lean): `translateC = .done translate`.  ForwardCtx.lean repeats the text of Forward.lean and adds to it; this
  theorem says that the additions leave the F0 behaviour alone, so that a statement about `Fwd.translate` (C11's round
  trip, say) is one about `FwdC.translateC` on the tables both accept (those with `CharChainsOK`: the two loops have
  different fuel).  No proof uses it, and the whole-call model does not go through it: `Engine.engineFor` runs the F0
  engine itself on such tables.
-/
import LouProofs.FwdTerm

namespace Lou.FwdCRefine
open Lou Lou.Gen Lou.Fwd Lou.FwdC Lou.FwdOK Lou.FwdCOK Lou.FwdTerm Lou.FwdCTerm

/-- no context rule in the main pass: none among the rules, so none in a chain, and none without a key
    (`forPassRules[1]`, which `findForPassRule` searches) -/
def NoCtx (t : Table) : Prop := (∀ r ∈ t.rules, r.opcode ≠ CTO_Context) ∧ t.forPassChain 1 = []

theorem foundC_none (t : Table) (h : NoCtx t) (sel : Sel) (posInc : Bool) (vars input : List Nat) (pos : Nat) :
    foundC t { sel := sel } posInc vars input pos = Pass.Sel.none := by
  unfold foundC
  simp only [h.2, Pass.rulesOf, List.filterMap_nil, Pass.select]
  split <;> rfl

theorem stepC_step (t : Table) (h : NoCtx t) (mode : Nat) (input : List Nat) (max : Nat) (sc : StC) (hpi : sc.posInc = true) :
    stepC t mode input max sc = ({ sc with st := (step t mode input max sc.st).1 }, (step t mode input max sc.st).2) := by
  rw [FwdC.stepC_eq, Fwd.step_eq]
  dsimp only
  rw [selectRuleC_of_noCtx h.1, hpi]
  by_cases he : sc.st.pos = input.length
  · rw [if_pos he, if_pos he]
  rw [if_neg he, if_neg he, if_neg Bool.false_ne_true]
  cases insertNumberSign t input sc.st.pos sc.st.prevOp (beforeAttrs t input sc.st.pos) max sc.st.out with
  | none => rfl
  | some o1 => dsimp only; rw [foundC_none t h]

/-- `hwf` is there because the two loops have different fuel (`2n + 2`, `n + 2`): on a table where they spin, the
    extended one answers `.fuel` and F0 returns what it has. -/
theorem translateC_eq_translate (t : Table) (h : NoCtx t) (hwf : CharChainsOK t) (mode : Nat) (input : List Nat) (max : Nat)
    (cpos cstat : Int) :
    translateC t mode input max cpos cstat = .done (translate t mode input max cpos cstat) := by
  have hfin := loopC_total t hwf mode input max (2 * input.length + 2) _ (stInvC_init cpos cstat)
    (C06Pass.mu_init _)
  -- the two loops run in step; the extended one never says `unsupported`
  obtain ⟨hsc, -⟩ := iter_sim (f := stepC t mode input max) (g := step t mode input max)
    (fun sc st => sc = { st := st }) (fun sc st hs => by subst hs; rw [stepC_step t h _ _ _ _ rfl]; exact ⟨rfl, rfl⟩)
    (2 * input.length + 2) _ _ (rfl : _ = ({ st := { out := { cpos := cpos, cstat := cstat } } } : StC))
  rw [translateC_eq, translate_eq,
    ← loop_fuel_le t hwf mode input max _ (stInv_init cpos cstat) _ (2 * input.length + 2)
      (by show input.length - 0 + 1 ≤ _; omega) (by omega), loop_eq_iter]
  rw [loopC_eq_iter] at hfin ⊢
  dsimp only
  rw [hfin, hsc]
  rfl

end Lou.FwdCRefine
