/-
  The backward main pass with context rules (BackwardCtx.lean) restricted to tables WITHOUT context
  rules is the B0 backward main pass (Backward.lean): the two runs go through the same states except for the remembered
  previous opcode (the extended model follows the C code, where `passSelectRule` leaves `always` behind after every
  replacement; B0 remembers the selected opcode), and that field is only ever compared with `joinword`, which neither
  model can hold.  Hence `translateC = .done translate`: the two backward models agree where both apply, so what is
  proved of B0 (C11's round trip, `BackTerm`) holds of the extended model on such tables.  (The whole-call model does not
  go through this: `Engine.engineForBack` runs the B0 engine itself on such tables.)
-/
import LouProofs.BackCOK
import LouProofs.Lemmas.Table

namespace Lou.BackCRefine
open Lou Lou.Gen Lou.Back Lou.BackC Lou.BackOK Lou.BackCOK

/-- as `FwdCRefine.NoCtx`, with `backPassRules[1]` -/
def NoCtx (t : Table) : Prop := (∀ r ∈ t.rules, r.opcode ≠ CTO_Context) ∧ t.backPassChain 1 = []

theorem selectRuleC_eq (t : Table) (h : NoCtx t) (mode : Nat) (ctx : Back.Ctx) (input : List Nat) (pos before p1 p2 : Nat)
    (vars : List Nat) (h1 : p1 ≠ CTO_JoinableWord) (h2 : p2 ≠ CTO_JoinableWord) :
    selectRuleC t mode ctx input pos before p1 vars = { sel := selectRule t mode ctx input pos before p2 } := by
  rw [selectRuleC_of_noCtx h.1, selectRule_congr fun _ _ _ =>
    opcodeAccepts_congr rfl ((bne_iff_ne.mpr h1).trans (bne_iff_ne.mpr h2).symm) ..]

/-- the simulation: everything equal except the remembered previous opcode, which is never `joinword` on either side -/
structure Sim (sc : StC) (st : St) : Prop where
  pos : sc.st.pos = st.pos
  out : sc.st.out = st.out
  ctx : sc.st.ctx = st.ctx
  srcword : sc.st.srcword = st.srcword
  destword : sc.st.destword = st.destword
  applied : sc.st.applied = st.applied
  p1 : sc.st.prevOp ≠ CTO_JoinableWord
  p2 : st.prevOp ≠ CTO_JoinableWord
  un : sc.unsupported = false
  fl : sc.failed = false

theorem afterC_none (t : Table) (h : NoCtx t) (mode : Nat) (input : List Nat) (max p' : Nat) (o' : Out) (vars : List Nat) :
    afterC t mode input max p' o' vars = some (p', o', vars, CTO_Always) := by
  unfold afterC
  simp only [h.2, Pass.rulesOf, List.filterMap_nil, Pass.select]

theorem emitPlain_congr (t : Table) (mode : Nat) (input : List Nat) (max : Nat) (sel : Sel) (st st' : St)
    (hp : st.pos = st'.pos) (ho : st.out = st'.out) :
    emitPlain t mode input max sel st = emitPlain t mode input max sel st' := by
  rcases emitPlain_cases t input sel with e | e | ⟨_, _, e⟩ | e <;> rw [e, e]
  all_goals rw [hp, ho]

theorem stepC_sim (t : Table) (h : NoCtx t) (mode : Nat) (input : List Nat) (max : Nat) (sc : StC) (st : St) (hs : Sim sc st) :
    Sim (stepC t mode input max sc).1 (step t mode input max st).1 ∧
    (stepC t mode input max sc).2 = (step t mode input max st).2 := by
  have hcx : headCtx t sc.st = headCtx t st := headCtx_congr hs.ctx (congrArg Out.chars hs.out)
  rw [Back.step_eq]
  unfold stepC
  dsimp only
  -- what the extended step reads of its state is what the plain one reads, but for the previous opcode
  rw [hcx, hs.pos, hs.out, hs.srcword, hs.destword, hs.applied, hs.un, hs.fl,
    selectRuleC_eq t h mode _ input st.pos _ sc.st.prevOp st.prevOp sc.vars hs.p1 hs.p2]
  have hop := selectRule_ne_joinword t mode (headCtx t st) input st.pos (beforeAttrs t st.out) st.prevOp
  generalize selectRule t mode (headCtx t st) input st.pos (beforeAttrs t st.out) st.prevOp = sel at hop ⊢
  rw [if_neg Bool.false_ne_true]
  refine ite_rel (fun (x : StC × Bool) (y : St × Bool) => Sim x.1 y.1 ∧ x.2 = y.2)
    (fun _ => ⟨⟨rfl, rfl, rfl, rfl, rfl, rfl, hs.p1, hs.p2, rfl, rfl⟩, rfl⟩) fun _ => ?_
  unfold replC
  rw [emitPlain_congr t mode input max sel
    { st with ctx := ctxAfterSel sel (headCtx t st), prevOp := sc.st.prevOp, applied := st.applied ++ [sel.rule] }
    { st with ctx := ctxAfterSel sel (headCtx t st), applied := st.applied ++ [sel.rule] } rfl rfl]
  cases emitPlain t mode input max sel _ with
  | none => exact ⟨⟨rfl, rfl, rfl, rfl, rfl, rfl, hs.p1, hs.p2, rfl, rfl⟩, rfl⟩
  | some x =>
    dsimp only [Option.map_some]
    rw [if_neg Bool.false_ne_true, if_neg Bool.false_ne_true, afterC_none t h]
    dsimp only
    rw [finishC_eq, finishC_eq]
    have hjw : (sel.opcode != CTO_JoinableWord) = true := bne_iff_ne.mpr hop
    refine ⟨⟨rfl, rfl, rfl, ?_, ?_, rfl, ?_, ?_, rfl, rfl⟩, rfl⟩ <;> dsimp only
    · rw [hjw]; rfl
    · rw [hjw]; rfl
    · rw [if_pos (by decide)]; decide
    · split
      · exact hop
      · exact hs.p2

theorem translateC_eq_translate (t : Table) (h : NoCtx t) (mode : Nat) (input : List Nat) (max : Nat) (cpos : Int) :
    translateC t mode input max cpos = .done (translate t mode input max cpos) := by
  -- the two loops run in step, and B0's ends by itself within `n + 1` iterations: of the bound `4n + 4` of `translateC`
  -- this uses `n + 1 ≤ 4n + 4` and nothing else (with context rules no bound is enough, F2, and the contract proof in
  -- BackCOK does not look at it)
  obtain ⟨hs, hf⟩ := iter_sim (f := stepCG t mode input max) (g := stepG t mode input max) Sim
    (fun sc st hs => by
      rcases Nat.lt_or_ge st.pos input.length with hp | hp
      · rw [stepCG_of_lt (hs.pos ▸ hp), stepG_of_lt hp]
        exact stepC_sim t h mode input max sc st hs
      · rw [stepCG_of_ge (hs.pos ▸ hp), stepG_of_ge hp]
        exact ⟨hs, rfl⟩)
    (4 * input.length + 4) { st := { out := { cpos := cpos, cstat := 0 } } } { out := { cpos := cpos, cstat := 0 } }
    ⟨rfl, rfl, rfl, rfl, rfl, rfl, by show CTO_None ≠ CTO_JoinableWord; decide, by show CTO_None ≠ CTO_JoinableWord; decide, rfl, rfl⟩
  have hfin := iter_done (f := stepG t mode input max) (StInvB input.length max) (fun s => input.length - s.pos)
    (fun _ => stepG_inv) (fun _ _ => stepG_mu)
    (4 * input.length + 4) _ (stInvB_init cpos) (by show input.length - 0 < _; omega)
  rw [translateC_eq, translate_eq,
    ← BackTerm.loop_fuel_le t mode input max _ (stInvB_init cpos) _ (4 * input.length + 4) (by show input.length - 0 ≤ _; omega)
      (by omega), loop_eq_iter, loopC_eq_iter]
  dsimp only
  rw [hs.un, hs.fl, hf, hfin,
    epilogue_congr hs.pos (congrArg Out.chars hs.out) (congrArg Out.map hs.out) hs.srcword hs.destword hs.applied, hs.out]
  rfl

end Lou.BackCRefine
