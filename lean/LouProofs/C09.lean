/-
  C09 — dotsIO, ucBrl and the display table only re-encode cells (driver part).

  For an engine whose results do not depend on the dotsIO/ucBrl bits (`ModeBlind`: proved of the modelled engines
  in `ModeBlindEngine`, and checked on every shipped table by comparing the H4 traces of the three encodings of
  the same call) the pass loop is the same in the three encodings (`fwdRun_enc`), and on one and the same driver
  state (`finish_encodings`, `typeformCell_spec`):
    * default output = display image of the dotsIO output, cell by cell; consumed length, produced length and
      both maps equal
    * ucBrl output = low eight dots of each cell in the Unicode braille block
    * on return typeform[k] = '8' iff output cell k has dot 7 or 8, else '0'
  Backward:
    * `back_decode`: decoding characters = decoding (dotsIO) their lou_charToDots image, for display tables that
      flag their cells
    * `back_unicode`: the dotsIO decoder accepts U+28xx in place of flagged dot patterns (false on the code as
      found, F8; the model is that of the repaired code)
-/
import LouProofs.Lemmas.Driver

namespace Lou.C09
open Lou Lou.Drv

def encBits : Nat := mDotsIO ||| mUcBrl

/-- `|||` sets the two encoding bits on both sides, so the modes are compared in all other bits -/
def SameButEnc (i j : EngInit) : Prop :=
  i.typebuf = j.typebuf ∧ i.haveEmphasis = j.haveEmphasis ∧ i.srcSpacing = j.srcSpacing ∧
  i.mode ||| encBits = j.mode ||| encBits

def ModeBlind (e : Engine) : Prop := ∀ i j hist pin, SameButEnc i j → e i hist pin = e j hist pin

/-- two modes that agree on the three bits the modelled main passes read -/
structure ModeAgree (m m' : Nat) : Prop where
  noUndefined : hasBit m mNoUndefined = hasBit m' mNoUndefined
  noContractions : hasBit m mNoContractions = hasBit m' mNoContractions
  partialTrans : hasBit m mPartialTrans = hasBit m' mPartialTrans

theorem ModeAgree.refl (m : Nat) : ModeAgree m m := ⟨rfl, rfl, rfl⟩

theorem hasBit_enc (m k : Nat) (hk : encBits &&& k = 0) : hasBit (m ||| encBits) k = hasBit m k := by
  unfold hasBit
  rw [Nat.and_or_distrib_right, hk, Nat.or_zero]

/-- none of the three is an encoding bit -/
theorem modeAgree_enc (m : Nat) : ModeAgree (m ||| encBits) m :=
  ⟨hasBit_enc m _ (by decide), hasBit_enc m _ (by decide), hasBit_enc m _ (by decide)⟩

/-- the last clause of `SameButEnc` is the one the modelled engines need: of an `EngInit` they read `mode` only -/
theorem SameButEnc.modeAgree {i j : EngInit} (h : SameButEnc i j) : ModeAgree i.mode j.mode := by
  have a := modeAgree_enc i.mode
  have b := modeAgree_enc j.mode
  rw [h.2.2.2] at a
  exact ⟨a.1.symm.trans b.1, a.2.symm.trans b.2, a.3.symm.trans b.3⟩

theorem fwdRun_enc (t : TableInfo) (e : Engine) (a b : Args) (hb : ModeBlind e)
    (hin : a.inbuf = b.inbuf) (hout : a.outlen = b.outlen) (htf : a.typeform = b.typeform)
    (hsp : a.spacing = b.spacing) (hcur : a.cursor = b.cursor)
    (hmode : a.mode ||| encBits = b.mode ||| encBits) :
    fwdRun t e a = fwdRun t e b :=
  fwdRun_congr t e hin hout hcur fun hist pin => hb _ _ hist pin <| by
    simp only [SameButEnc, initFwd, hin, htf, hsp]
    exact ⟨trivial, trivial, trivial, hmode⟩

/-- `m0` is any mode of the default encoding; the other two runs are at exactly `mDotsIO` and `mDotsIO ||| mUcBrl` -/
theorem finish_encodings (disp : Nat → Nat) (a : Args) (s : FwdState) (m0 : Nat)
    (h0 : hasBit m0 mDotsIO = false)
    (hdef : (fwdFinish disp { a with mode := m0 } s).ret = 1) :
    let rD := fwdFinish disp { a with mode := m0 } s
    let rI := fwdFinish disp { a with mode := mDotsIO } s
    let rU := fwdFinish disp { a with mode := mDotsIO ||| mUcBrl } s
    rI.ret = 1 ∧ rU.ret = 1 ∧
    rI.outbuf = s.output ∧
    rD.outbuf = s.output.map disp ∧
    rU.outbuf = s.output.map (fun c => (c &&& 0xff) ||| LOU_ROW_BRAILLE) ∧
    rD.inlen = rI.inlen ∧ rD.outlen = rI.outlen ∧ rD.inputPos = rI.inputPos ∧ rD.outputPos = rI.outputPos ∧
    rU.inlen = rI.inlen ∧ rU.outlen = rI.outlen ∧
    rD.typeform = rI.typeform ∧ rI.typeform = a.typeform.map (fun _ => s.output.map typeformCell) := by
  intro rD rI rU
  -- each of the three runs succeeds, with its own cell encoding; everything else is `fwdOk` of the same state
  have hI : rI = fwdOk { a with mode := mDotsIO } s (s.output.map id) :=
    fwdFinish_of_some fun _ _ => encodeCell_dotsIO (mode := mDotsIO) (by decide) (by decide)
  have hU : rU = fwdOk { a with mode := mDotsIO ||| mUcBrl } s (s.output.map fun c => (c &&& 0xff) ||| LOU_ROW_BRAILLE) :=
    fwdFinish_of_some fun _ _ => encodeCell_ucBrl (mode := mDotsIO ||| mUcBrl) (by decide) (by decide)
  have hD : rD = fwdOk { a with mode := m0 } s (s.output.map disp) := (fwdFinish_default h0 hdef).2
  rw [hI, hU, hD]
  simp [fwdOk]

theorem typeformCell_spec (c : Nat) :
    (typeformCell c = '8'.toNat ↔ (c &&& (LOU_DOT_7 ||| LOU_DOT_8)) ≠ 0) ∧
    (typeformCell c = '0'.toNat ↔ (c &&& (LOU_DOT_7 ||| LOU_DOT_8)) = 0) := by
  unfold typeformCell
  by_cases h : (c &&& (LOU_DOT_7 ||| LOU_DOT_8)) = 0 <;> simp [h]

/-- `hflag` says one thing twice: its second conjunct gives the first (`LOU_DOTS ≠ 0`).  The first is the test
    `decodeDotsIO` makes, the second what its final `||| LOU_DOTS` must leave alone -/
theorem back_decode (dotsFor : Nat → Nat) (m : Nat) (hm : hasBit m mDotsIO = false) (l : List Nat)
    (hflag : ∀ c ∈ l, dotsFor c &&& LOU_DOTS ≠ 0 ∧ dotsFor c ||| LOU_DOTS = dotsFor c) :
    decodeInput m dotsFor l = decodeInput (m ||| mDotsIO) dotsFor (l.map dotsFor) := by
  unfold decodeInput
  rw [List.map_map]
  apply List.map_congr_left
  intro c hc
  have h1 : hasBit (m ||| mDotsIO) mDotsIO = true := by
    simp [hasBit, mDotsIO, Nat.and_or_distrib_right]
  simp only [hm, h1, Bool.false_eq_true, if_false, if_true, Function.comp]
  unfold decodeDotsIO
  have := hflag c hc
  rw [if_neg (by intro h; exact this.1 h.1)]
  exact this.2.symm

/-- after the F8 repair the C maps U+28xx to `(c & 0xff) | LOU_DOTS` before ORing the flag -/
theorem back_unicode (d : Nat) (hd : d < 256) :
    decodeDotsIO (LOU_ROW_BRAILLE ||| d) = decodeDotsIO (LOU_DOTS ||| d) := by
  have h : ∀ d : Fin 256, decodeDotsIO (LOU_ROW_BRAILLE ||| d.val) = decodeDotsIO (LOU_DOTS ||| d.val) := by
    decide +kernel
  exact h ⟨d, hd⟩

end Lou.C09
