/-
  C09 for the whole-call model: the engines `callFwd` / `callBack` run are `ModeBlind`, so the three encodings of one
  forward call go through the SAME stages (same history, same driver state) and differ only in how the final stage
  writes each cell — without any hypothesis about the engine.  The four main passes read `mode` through three bits
  (`translate_mode`, `translateC_mode` of CurBlind, CurBlindC, CurBlindB), none of them an encoding bit
  (`translate_enc`, `translateC_enc`).
-/
import LouProofs.ModelEngine
import LouProofs.CurBlindC
import LouProofs.CurBlindB

-- the backward twins of `C09.translate_enc`, `C09.translateC_enc` below; same short names, hence a namespace of their own
namespace Lou.C09B
open Lou Lou.Gen Lou.Back Lou.BackC Lou.C09

theorem translate_enc (t : Table) (m : Nat) (input : List Nat) (maxlen : Nat) (cpos : Int) :
    translate t (m ||| encBits) input maxlen cpos = translate t m input maxlen cpos :=
  CurBlindB.translate_mode (modeAgree_enc m) ..

theorem translateC_enc (t : Table) (m : Nat) (input : List Nat) (maxlen : Nat) (cpos : Int) :
    translateC t (m ||| encBits) input maxlen cpos = translateC t m input maxlen cpos :=
  CurBlindB.translateC_mode (modeAgree_enc m) ..

end Lou.C09B

namespace Lou.C09
open Lou Lou.Gen Lou.Drv Lou.Engine

section
open Lou.Fwd Lou.FwdC

theorem translate_enc (t : Table) (m : Nat) (input : List Nat) (maxlen : Nat) (cpos cstat : Int) :
    translate t (m ||| encBits) input maxlen cpos cstat = translate t m input maxlen cpos cstat :=
  CurBlind.translate_mode (modeAgree_enc m) ..

theorem translateC_enc (t : Table) (m : Nat) (input : List Nat) (maxlen : Nat) (cpos cstat : Int) :
    translateC t (m ||| encBits) input maxlen cpos cstat = translateC t m input maxlen cpos cstat :=
  CurBlindC.translateC_mode (modeAgree_enc m) ..

end

theorem engineFor_modeBlind (t : Table) : ModeBlind (engineFor t) := by
  refine engineFor_elim t (fun i j hist pin h => ?_) (fun i j hist pin h => ?_)
  · unfold modelEngineC
    rw [CurBlindC.translateC_mode h.modeAgree]
  · unfold modelEngine
    rw [CurBlind.translate_mode h.modeAgree]

theorem engineForBack_modeBlind (t : Table) : ModeBlind (engineForBack t) := by
  refine engineForBack_elim t (fun i j hist pin h => ?_) (fun i j hist pin h => ?_)
  · unfold modelEngineBackC
    rw [CurBlindB.translateC_mode h.modeAgree]
  · unfold modelEngineBack
    rw [CurBlindB.translate_mode h.modeAgree]

theorem callFwd_enc (t : Table) (disp : Nat → Nat) (a b : Args)
    (hin : a.inbuf = b.inbuf) (hout : a.outlen = b.outlen) (htf : a.typeform = b.typeform)
    (hsp : a.spacing = b.spacing) (hcur : a.cursor = b.cursor) (hmode : a.mode ||| encBits = b.mode ||| encBits)
    (ra : Result) (ha : List (PassIn × PassOut)) (hca : callFwd t disp a = .ok (ra, ha)) :
    ra = fwdFinish disp a (fwdRun (tableInfo t) (engineFor t) b) ∧ ha = (fwdRun (tableInfo t) (engineFor t) b).hist := by
  obtain ⟨ea, eha⟩ := Lou.ModelEngine.callFwd_eq t disp a ra ha hca
  have hrun := fwdRun_enc (tableInfo t) (engineFor t) a b (engineFor_modeBlind t) hin hout htf hsp hcur hmode
  exact ⟨by rw [ea, fwd_some, hrun], by rw [eha, hrun]⟩

/-- two forward calls of the whole-call model that differ only in the encoding bits run the same stages on the same data
    (equal histories) and end in one and the same driver state `s`; each result is the final stage applied to `s` with
    the call's own mode -/
theorem whole_call_fwd_encodings (t : Table) (disp : Nat → Nat) (a b : Args)
    (hin : a.inbuf = b.inbuf) (hout : a.outlen = b.outlen) (htf : a.typeform = b.typeform)
    (hsp : a.spacing = b.spacing) (hcur : a.cursor = b.cursor) (hmode : a.mode ||| encBits = b.mode ||| encBits)
    (ra rb : Result) (ha hb : List (PassIn × PassOut))
    (hca : callFwd t disp a = .ok (ra, ha)) (hcb : callFwd t disp b = .ok (rb, hb)) :
    ha = hb ∧ ∃ s : FwdState, ra = fwdFinish disp a s ∧ rb = fwdFinish disp b s := by
  obtain ⟨ea, eha⟩ := callFwd_enc t disp a b hin hout htf hsp hcur hmode ra ha hca
  obtain ⟨eb, ehb⟩ := callFwd_enc t disp b b rfl rfl rfl rfl rfl rfl rb hb hcb
  exact ⟨eha.trans ehb.symm, _, ea, eb⟩

/-- the default, the dotsIO and the dotsIO|ucBrl call of the whole-call model on the same arguments go through the same
    stages and return the same lengths; default output = display image of the dotsIO output cell by cell, with the same
    position maps and typeform; ucBrl output = low eight dots of the dotsIO output in the Unicode braille block.
    The three modes are exactly 0, `mDotsIO` and `mDotsIO ||| mUcBrl`: of calls with another mode bit set only
    `whole_call_fwd_encodings` speaks -/
theorem whole_call_fwd_three (t : Table) (disp : Nat → Nat) (a : Args)
    (rD rI rU : Result) (hD hI hU : List (PassIn × PassOut))
    (hcD : callFwd t disp { a with mode := 0 } = .ok (rD, hD))
    (hcI : callFwd t disp { a with mode := mDotsIO } = .ok (rI, hI))
    (hcU : callFwd t disp { a with mode := mDotsIO ||| mUcBrl } = .ok (rU, hU))
    (hret : rD.ret = 1) :
    hD = hI ∧ hU = hI ∧ rI.ret = 1 ∧ rU.ret = 1 ∧
    rD.outbuf = rI.outbuf.map disp ∧
    rU.outbuf = rI.outbuf.map (fun c => (c &&& 0xff) ||| LOU_ROW_BRAILLE) ∧
    rD.inlen = rI.inlen ∧ rD.outlen = rI.outlen ∧ rD.inputPos = rI.inputPos ∧ rD.outputPos = rI.outputPos ∧
    rU.inlen = rI.inlen ∧ rU.outlen = rI.outlen ∧ rD.typeform = rI.typeform := by
  -- all three are the final stage on the run of the dotsIO call
  have enc := fun m (hm : m ||| encBits = mDotsIO ||| encBits) =>
    callFwd_enc t disp { a with mode := m } { a with mode := mDotsIO } rfl rfl rfl rfl rfl hm
  obtain ⟨hfD, ehD⟩ := enc 0 (by decide) rD hD hcD
  obtain ⟨hfI, ehI⟩ := enc mDotsIO rfl rI hI hcI
  obtain ⟨hfU, ehU⟩ := enc (mDotsIO ||| mUcBrl) (by decide) rU hU hcU
  have key := finish_encodings disp a (fwdRun (tableInfo t) (engineFor t) { a with mode := mDotsIO }) 0 (by decide)
    (by rw [← hfD]; exact hret)
  simp only [← hfD, ← hfI, ← hfU] at key
  obtain ⟨retI, retU, outI, outD, outU, inlenD, outlenD, inputPosD, outputPosD, inlenU, outlenU, typeformD, -⟩ := key
  exact ⟨ehD.trans ehI.symm, ehU.trans ehI.symm, retI, retU, outI ▸ outD, outI ▸ outU,
    inlenD, outlenD, inputPosD, outputPosD, inlenU, outlenU, typeformD⟩

theorem backRun_decode (ti : TableInfo) (dotsFor : Nat → Nat) (e : Engine) (hb : ModeBlind e) (a : Args)
    (hm : hasBit a.mode mDotsIO = false) (hnul : ∀ c ∈ a.inbuf, c ≠ 0)
    (hflag : ∀ c ∈ a.inbuf, dotsFor c &&& LOU_DOTS ≠ 0 ∧ dotsFor c ||| LOU_DOTS = dotsFor c) :
    backRun ti dotsFor e a = backRun ti dotsFor e { a with inbuf := a.inbuf.map dotsFor, mode := a.mode ||| mDotsIO } := by
  have hnul' : ∀ c ∈ a.inbuf.map dotsFor, c ≠ 0 := by
    intro c hc h0
    obtain ⟨x, hx, rfl⟩ := List.mem_map.mp hc
    exact (hflag x hx).1 (by rw [h0, Nat.zero_and])
  refine backRun_congr ti e ?_ rfl rfl fun hist pin => hb _ _ hist pin ⟨rfl, rfl, rfl, ?_⟩
  · simp only [Contract.cutAtNul_noNul _ hnul, Contract.cutAtNul_noNul _ hnul',
      ← back_decode dotsFor a.mode hm a.inbuf hflag]
  · show a.mode ||| encBits = (a.mode ||| mDotsIO) ||| encBits
    unfold encBits
    rw [Nat.or_assoc, ← Nat.or_assoc mDotsIO, Nat.or_self]

/-- back-translating characters and back-translating (dotsIO) their display image are the same call of the whole-call
    model: same stages, same result (text, lengths, position maps, cursor) -/
theorem whole_call_back_decode (t : Table) (dotsFor : Nat → Nat) (a : Args)
    (hm : hasBit a.mode mDotsIO = false) (hnul : ∀ c ∈ a.inbuf, c ≠ 0)
    (hflag : ∀ c ∈ a.inbuf, dotsFor c &&& LOU_DOTS ≠ 0 ∧ dotsFor c ||| LOU_DOTS = dotsFor c)
    (ra rb : Result) (ha hb : List (PassIn × PassOut))
    (hca : callBack t dotsFor a = .ok (ra, ha))
    (hcb : callBack t dotsFor { a with inbuf := a.inbuf.map dotsFor, mode := a.mode ||| mDotsIO } = .ok (rb, hb)) :
    ha = hb ∧ ra = rb := by
  obtain ⟨ea, eha⟩ := Lou.ModelEngine.callBack_eq_both t dotsFor a ra ha hca
  obtain ⟨eb, ehb⟩ := Lou.ModelEngine.callBack_eq_both t dotsFor _ rb hb hcb
  have hrun := backRun_decode (tableInfo t) dotsFor (engineForBack t) (engineForBack_modeBlind t) a hm hnul hflag
  refine ⟨by rw [eha, ehb, hrun], ?_⟩
  rw [ea, eb, back_some, back_some, ← hrun]
  -- of the two fields that differ the final stage reads only `inbuf`, and only its length
  exact backFinish_congr _ (List.length_map ..).symm rfl rfl rfl rfl

end Lou.C09
