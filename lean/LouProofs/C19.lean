/-
  C19 — log filtering only filters.

  Property text:
    "A registered log callback receives a message if and only if its level is at or
     above the threshold set with lou_setLogLevel (default INFO, OFF suppresses
     everything); raising the threshold never changes the text, level or relative order
     of the messages still delivered.  Passing NULL restores the default sink, and
     caller-supplied text (table names, rule text containing '%') appears verbatim
     rather than being interpreted as a format."

  Two kinds of theorems:
  * about the logger state machine `Lou.Log` (a transcription of logging.c), for ALL operation sequences, states,
    levels and texts;
  * about the source inventory `Lou.Gen.LogSites`, generated from /repo by tools/lv/extract_log.py, by evaluation:
    the threshold variable is read in one place and written in one place, every logging call has a literal format,
    the default sink passes the message as a "%s" argument.  These make the model's `emit level text` — a message
    whose level and text do not depend on the logger — an adequate picture of every call site in the library.

  Forced by the code:
  * "OFF suppresses everything" holds for messages of level below LOU_LOG_OFF: a message AT level 60000 passes the
    test `level < logLevel` (`off_passes_level_off`); no call site of the library uses such a level
    (`call_levels_below_off`);
  * `lou_logFile` while the stream is stderr is outside the model (the C code closes stderr there).  `Log.covered`
    says which scripts avoid it; no theorem below assumes it, so for a script on which it is false they are
    statements about the model alone.
-/
import LouModel.Log
import LouModel.Gen.LogSites

namespace Lou.C19
open Lou Lou.Log

variable (co : String → Bool)

/-- The model's `dest` as a function of the two fields it reads (`dest_eq`).  `dest co st` is `(openSink co st).2`, an
    `if` under a projection with the whole state in both branches: neither `rfl` nor `congrArg` tells that two states
    with these fields equal have the same `dest`. -/
def destOf (lf : LogFile) (init : String) : Sink :=
  match lf with
  | .file n => .file n
  | .stderr => .stderr
  | .closed => if co init = true then .file init else .stderr

theorem dest_eq (st : State) : dest co st = destOf co st.logFile st.initialName := by
  unfold dest openSink destOf
  cases st.logFile with
  | closed => by_cases ho : co st.initialName = true <;> simp [ho]
  | _ => rfl

theorem openSink_snd (st : State) : (openSink co st).2 = dest co st := rfl

theorem dest_ne_callback (st : State) : dest co st ≠ Sink.callback := by
  rw [dest_eq]
  unfold destOf
  cases st.logFile with
  | closed => by_cases ho : co st.initialName = true <;> simp [ho]
  | _ => simp

/-- two logger states that differ at most in the threshold and in whether the default
    sink's stream has been opened yet -/
def Sim (s₁ s₂ : State) : Prop :=
  s₁.userCb = s₂.userCb ∧ s₁.initialName = s₂.initialName ∧ dest co s₁ = dest co s₂

section
variable {co}

theorem Sim.of_fields {s₁ s₂ : State} (hc : s₁.userCb = s₂.userCb) (hi : s₁.initialName = s₂.initialName)
    (hd : destOf co s₁.logFile s₁.initialName = destOf co s₂.logFile s₂.initialName) : Sim co s₁ s₂ :=
  ⟨hc, hi, by rw [dest_eq, dest_eq, hd]⟩

theorem Sim.symm {s₁ s₂ : State} (h : Sim co s₁ s₂) : Sim co s₂ s₁ := ⟨h.1.symm, h.2.1.symm, h.2.2.symm⟩

theorem Sim.trans {s₁ s₂ s₃ : State} (h : Sim co s₁ s₂) (h' : Sim co s₂ s₃) : Sim co s₁ s₃ :=
  ⟨h.1.trans h'.1, h.2.1.trans h'.2.1, h.2.2.trans h'.2.2⟩

end

theorem openSink_fst (st : State) : (openSink co st).1.threshold = st.threshold ∧ Sim co (openSink co st).1 st := by
  simp only [Sim, dest_eq]
  unfold openSink destOf
  cases h : st.logFile with
  | closed => by_cases ho : co st.initialName = true <;> simp [ho]
  | _ => simp [h]

def sinkOf (st : State) : Sink := if st.userCb = true then .callback else dest co st

theorem emit_delivers (st : State) (l : Nat) (t : String) :
    (step co st (.emit l t)).2 =
      if l < st.threshold then [] else [{ sink := sinkOf co st, level := l, text := t }] := by
  rw [step, sinkOf]
  split
  · rfl
  · split <;> rfl

theorem emit_state (st : State) (l : Nat) (t : String) :
    (step co st (.emit l t)).1.threshold = st.threshold ∧ Sim co (step co st (.emit l t)).1 st := by
  rw [step]
  split
  · exact ⟨rfl, rfl, rfl, rfl⟩
  · split
    · exact ⟨rfl, rfl, rfl, rfl⟩
    · exact openSink_fst co st

theorem emit_keeps_control (st : State) (l : Nat) (t : String) :
    (step co st (.emit l t)).1.threshold = st.threshold ∧ (step co st (.emit l t)).1.userCb = st.userCb :=
  ⟨(emit_state co st l t).1, (emit_state co st l t).2.1⟩

theorem emit_events (st : State) (l : Nat) (t : String) :
    (step co st (.emit l t)).2 = [] ∨
    ∃ s, (step co st (.emit l t)).2 = [{ sink := s, level := l, text := t }] := by
  rw [emit_delivers]
  split
  · exact .inl rfl
  · exact .inr ⟨_, rfl⟩

/-- With a callback registered, the callback receives the message —
    with exactly the level and text of the call — if and only if the level is at or
    above the threshold; below it nothing at all is delivered, to any sink. -/
theorem delivered_iff (st : State) (l : Nat) (t : String) (hcb : st.userCb = true) :
    ((step co st (.emit l t)).2 = [{ sink := .callback, level := l, text := t }] ↔ st.threshold ≤ l) ∧
    ((step co st (.emit l t)).2 = [] ↔ l < st.threshold) := by
  rw [emit_delivers, sinkOf, if_pos hcb]
  split <;> simp <;> omega

/-- Model side (the source side is `levels_match`): at program start the threshold is
    LOU_LOG_INFO and the default sink is installed -/
theorem default_is_info : State.init.threshold = LOG_INFO ∧ State.init.userCb = false := ⟨rfl, rfl⟩

theorem default_threshold_behaviour (l : Nat) (t : String) :
    ((step co { State.init with userCb := true } (.emit l t)).2 ≠ [] ↔ LOG_INFO ≤ l) := by
  rw [Ne, (delivered_iff co { State.init with userCb := true } l t rfl).2]
  exact Nat.not_lt

/-- the hypothesis on the levels of `off_delivers_nothing` is needed: the test is `level < logLevel` -/
theorem off_passes_level_off (t : String) :
    (step co { State.init with threshold := LOG_OFF, userCb := true } (.emit LOG_OFF t)).2 =
      [{ sink := .callback, level := LOG_OFF, text := t }] :=
  (delivered_iff co _ LOG_OFF t rfl).1.2 (Nat.le_refl _)

theorem delivered_cons (st : State) (op : Op) (ops : List Op) :
    delivered co st (op :: ops) = (step co st op).2 ++ delivered co (step co st op).1 ops := rfl

def NoSetLevel (ops : List Op) : Prop := ∀ op ∈ ops, ∀ l, op ≠ Op.setLevel l

def EmitsBelow (b : Nat) (ops : List Op) : Prop := ∀ l t, Op.emit l t ∈ ops → l < b

theorem doLogFile_frame (s : State) (n : Option String) :
    (doLogFile co s n).threshold = s.threshold ∧ (doLogFile co s n).userCb = s.userCb := by
  cases n <;> simp [doLogFile, apply_ite State.threshold, apply_ite State.userCb]

theorem step_threshold (st : State) (op : Op) (h : ∀ l, op ≠ .setLevel l) :
    (step co st op).1.threshold = st.threshold := by
  cases op with
  | setLevel l => exact absurd rfl (h l)
  | register b => rfl
  | emit l t => exact (emit_state co st l t).1
  | logFile n => exact (doLogFile_frame co st n).1
  | logEnd => rfl

/-- "OFF suppresses everything": at threshold LOU_LOG_OFF nothing is delivered to any
    sink, whatever is registered — by a script whose messages have levels below LOU_LOG_OFF. -/
theorem off_delivers_nothing (st : State) (ops : List Op) (hoff : st.threshold = LOG_OFF)
    (hn : NoSetLevel ops) (hb : EmitsBelow LOG_OFF ops) :
    delivered co st ops = [] := by
  induction ops generalizing st with
  | nil => rfl
  | cons op ops ih =>
    rw [delivered_cons, ih _ ((step_threshold co st op (hn op List.mem_cons_self)).trans hoff)
      (fun o ho => hn o (List.mem_cons_of_mem _ ho)) (fun l t hm => hb l t (List.mem_cons_of_mem _ hm)),
      List.append_nil]
    cases op with
    | emit l t => rw [emit_delivers, if_pos (hoff ▸ hb l t List.mem_cons_self)]
    | _ => rfl

/-- After `lou_registerLogCallback(NULL)` no message reaches a
    callback: a message at or above the threshold goes to the default sink (the log
    file chosen with lou_logFile, else stderr), with its text unchanged; the threshold
    is untouched. -/
theorem null_restores (st : State) (l : Nat) (t : String) :
    (step co st (.register false)).1.threshold = st.threshold ∧
    (step co (step co st (.register false)).1 (.emit l t)).2 =
      (if l < st.threshold then [] else [{ sink := dest co st, level := l, text := t }]) ∧
    (∀ e ∈ (step co (step co st (.register false)).1 (.emit l t)).2, e.sink ≠ Sink.callback) := by
  have hs : sinkOf co (step co st (.register false)).1 = dest co st := by
    simp only [sinkOf, step, dest_eq, Bool.false_eq_true, if_false]
  have he := emit_delivers co (step co st (.register false)).1 l t
  rw [hs] at he
  refine ⟨rfl, he, fun e hm => ?_⟩
  rw [he] at hm
  split at hm
  · cases hm
  · rw [List.mem_singleton.1 hm]; exact dest_ne_callback co st

theorem null_in_initial_state_is_identity : (step co State.init (.register false)).1 = State.init := rfl

theorem register_takes_over (st : State) (l : Nat) (t : String) (h : st.threshold ≤ l) :
    (step co (step co st (.register true)).1 (.emit l t)).2 = [{ sink := .callback, level := l, text := t }] := by
  rw [emit_delivers, if_neg (show ¬ l < (step co st (.register true)).1.threshold from Nat.not_lt.2 h)]; rfl

def OpRaised : Op → Op → Prop
  | .setLevel l₁, .setLevel l₂ => l₁ ≤ l₂
  | a, b => a = b

theorem doLogFile_sim (s₁ s₂ : State) (n : Option String) (h : Sim co s₁ s₂) :
    Sim co (doLogFile co s₁ n) (doLogFile co s₂ n) := by
  obtain ⟨hc, hi, _⟩ := h
  have k : (doLogFile co s₁ n).logFile = (doLogFile co s₂ n).logFile ∧
      (doLogFile co s₁ n).initialName = (doLogFile co s₂ n).initialName := by
    cases n with
    | none => exact ⟨rfl, hi⟩
    | some n => simp only [doLogFile, apply_ite State.logFile, apply_ite State.initialName, hi, and_self]
  exact .of_fields (by rw [(doLogFile_frame co s₁ n).2, (doLogFile_frame co s₂ n).2, hc]) k.2 (by rw [k.1, k.2])

theorem step_sim (s₁ s₂ : State) (a b : Op) (hs : Sim co s₁ s₂) (ht : s₁.threshold ≤ s₂.threshold)
    (hab : OpRaised a b) :
    Sim co (step co s₁ a).1 (step co s₂ b).1 ∧
    (step co s₁ a).1.threshold ≤ (step co s₂ b).1.threshold ∧
    (step co s₂ b).2 = (step co s₁ a).2.filter (fun e => s₂.threshold ≤ e.level) := by
  have ⟨hc, hi, hd⟩ := hs
  rw [dest_eq, dest_eq] at hd
  unfold OpRaised at hab
  split at hab
  · exact ⟨.of_fields hc hi hd, hab, rfl⟩
  · next hne =>
    -- apart from two `setLevel`s the operations are the same
    subst hab
    have hns : ∀ l, a ≠ .setLevel l := fun l h => hne l l h h
    refine ⟨?_, by rw [step_threshold co s₁ a hns, step_threshold co s₂ a hns]; exact ht, ?_⟩
    · cases a with
      | setLevel l => exact absurd rfl (hns l)
      | register x => exact .of_fields rfl hi hd
      | logEnd => exact .of_fields hc hi (congrArg (destOf co .closed) hi)
      | logFile n => exact doLogFile_sim co s₁ s₂ n hs
      | emit l t => exact ((emit_state co s₁ l t).2.trans hs).trans (emit_state co s₂ l t).2.symm
    · cases a with
      | emit l t =>
        have hsink : sinkOf co s₂ = sinkOf co s₁ := by simp only [sinkOf, hc, dest_eq, hd]
        rw [emit_delivers, emit_delivers, hsink]
        by_cases h1 : l < s₁.threshold
        · rw [if_pos h1, if_pos (by omega)]; rfl
        · by_cases h2 : l < s₂.threshold
          · simp [h1, h2, Nat.not_le.2 h2]
          · simp [h1, h2, Nat.not_lt.1 h2]
      | _ => rfl

/-- The SAME script (any operations except lou_setLogLevel, which is what is varied) run at
    thresholds t₁ ≤ t₂: what is delivered at t₂ — to the callback and to the default sink — is what is delivered
    at t₁ with the messages below t₂ removed: same sinks, levels, texts and order. -/
theorem filter_monotone (st : State) (t₁ t₂ : Nat) (ops : List Op) (h : t₁ ≤ t₂) (hn : NoSetLevel ops) :
    delivered co { st with threshold := t₂ } ops =
      (delivered co { st with threshold := t₁ } ops).filter (fun e => t₂ ≤ e.level) := by
  suffices H : ∀ (s₁ s₂ : State), Sim co s₁ s₂ → s₁.threshold ≤ s₂.threshold → s₂.threshold = t₂ →
      delivered co s₂ ops = (delivered co s₁ ops).filter (fun e => t₂ ≤ e.level) from
    H _ _ (.of_fields rfl rfl rfl) h rfl
  induction ops with
  | nil => intros; rfl
  | cons op ops ih =>
    intro s₁ s₂ hs ht h2
    have hns := hn op List.mem_cons_self
    obtain ⟨hs', ht', hev⟩ := step_sim co s₁ s₂ op op hs ht (by cases op <;> simp [OpRaised])
    rw [delivered_cons, delivered_cons, List.filter_append, hev, h2,
      ih (fun o ho => hn o (List.mem_cons_of_mem _ ho)) _ _ hs' ht' ((step_threshold co s₂ op hns).trans h2)]

/-- what the callback receives, the stream the property speaks of -/
def callbackStream (evs : List Event) : List (Nat × String) :=
  (evs.filter (fun e => e.sink == Sink.callback)).map (fun e => (e.level, e.text))

theorem filter_monotone_callback (st : State) (t₁ t₂ : Nat) (ops : List Op) (h : t₁ ≤ t₂) (hn : NoSetLevel ops) :
    callbackStream (delivered co { st with threshold := t₂ } ops) =
      (callbackStream (delivered co { st with threshold := t₁ } ops)).filter (fun m => t₂ ≤ m.1) := by
  rw [filter_monotone co st t₁ t₂ ops h hn, callbackStream, callbackStream, List.filter_map, List.filter_filter,
    List.filter_filter]
  simp only [Function.comp_def, Bool.and_comm]

inductive ScriptRaised : List Op → List Op → Prop
  | nil : ScriptRaised [] []
  | cons {a b : Op} {as bs : List Op} : OpRaised a b → ScriptRaised as bs → ScriptRaised (a :: as) (b :: bs)

/-- In general — thresholds changed at will inside the script, each `lou_setLogLevel` value on the right at least the one
    on the left — the run with the higher thresholds delivers a SUBLIST of what the other delivers: no message is
    altered, added or reordered. -/
theorem raise_sublist (ops₁ ops₂ : List Op) (hops : ScriptRaised ops₁ ops₂)
    (s₁ s₂ : State) (hs : Sim co s₁ s₂) (ht : s₁.threshold ≤ s₂.threshold) :
    (delivered co s₂ ops₂).Sublist (delivered co s₁ ops₁) := by
  induction hops generalizing s₁ s₂ with
  | nil => exact List.Sublist.refl _
  | cons hab _ ih =>
    obtain ⟨hs', ht', hev⟩ := step_sim co s₁ s₂ _ _ hs ht hab
    rw [delivered_cons, delivered_cons, hev]
    exact List.Sublist.append List.filter_sublist (ih _ _ hs' ht')

open Lou.Gen.LogSites in
/-- the source side of `default_is_info`: the seven constants of liblouis.h are the model's,
    and `logLevel` is initialised at file scope to LOU_LOG_INFO -/
theorem levels_match :
    levels = [("LOU_LOG_ALL", LOG_ALL), ("LOU_LOG_DEBUG", LOG_DEBUG), ("LOU_LOG_INFO", LOG_INFO),
      ("LOU_LOG_WARN", LOG_WARN), ("LOU_LOG_ERROR", LOG_ERROR), ("LOU_LOG_FATAL", LOG_FATAL),
      ("LOU_LOG_OFF", LOG_OFF)] ∧
    (varRefs.filter (fun r => r.var == "logLevel" && r.kind == .init)).map (fun r => (r.file, r.func, r.init)) =
      [("logging.c", "<file-scope>", "LOU_LOG_INFO")] := ⟨rfl, by decide +kernel⟩

open Lou.Gen.LogSites in
/-- In all of liblouis/*.c the variable `logLevel` is READ only in `_lou_logMessage` and WRITTEN only in
    `lou_setLogLevel` (both in logging.c): no other code can make what it does, or what it logs, depend on the
    threshold. -/
theorem logLevel_read_only_in_logMessage :
    (varRefs.filter (fun r => r.var == "logLevel")).all (fun r =>
      r.file == "logging.c" &&
      (match r.kind with
       | .read => r.func == "_lou_logMessage"
       | .write => r.func == "lou_setLogLevel"
       | .init => r.func == "<file-scope>")) = true ∧
    (varRefs.filter (fun r => r.var == "logLevel" && r.kind == .read)).length = 1 := by decide +kernel

open Lou.Gen.LogSites in
/-- the same for the callback pointer: written only by `lou_registerLogCallback`,
    used only by `_lou_logMessage`, initialised to the default sink -/
theorem callback_sites :
    (varRefs.filter (fun r => r.var == "logCallbackFunction")).all (fun r =>
      r.file == "logging.c" &&
      (match r.kind with
       | .read => r.func == "_lou_logMessage"
       | .write => r.func == "lou_registerLogCallback"
       | .init => r.func == "<file-scope>" && r.init == "defaultLogCallback")) = true := by decide +kernel

open Lou.Gen.LogSites in
/-- Every call of `_lou_logMessage`, `lou_logPrint`, `compileError` and `compileWarning` that the inventory lists
    passes a STRING LITERAL as its format; caller text can therefore only ever be an argument.  (`_lou_logWidecharBuf`'s
    second argument is copied byte by byte and then passed as the argument of a "%s".) -/
theorem formats_are_literals :
    callSites.all (fun c => c.fmt != FmtClass.nonLiteral) = true := by decide +kernel

open Lou.Gen.LogSites in
/-- the default sink hands the message to `lou_logPrint` as the argument of "%s" and is its only caller in the
    library; these four are the only variadic functions; and the wrappers (`compileError`, `compileWarning`,
    `_lou_logWidecharBuf`) call `_lou_logMessage` with a literal format of their own: none forwards a format -/
theorem default_sink_passes_message_as_argument :
    (callSites.filter (fun c => c.callee == "lou_logPrint")).map (fun c => (c.file, c.func, c.fmt, c.nargs)) =
      [("logging.c", "defaultLogCallback", FmtClass.pctS, 2)] ∧
    variadic = [("compileTranslationTable.c", "compileError"), ("compileTranslationTable.c", "compileWarning"),
      ("logging.c", "_lou_logMessage"), ("logging.c", "lou_logPrint")] ∧
    (callSites.filter (fun c => c.func == "compileError" || c.func == "compileWarning" ||
        c.func == "_lou_logWidecharBuf")).all (fun c => c.callee == "_lou_logMessage" && c.fmt != .nonLiteral) = true := by
  decide +kernel

open Lou.Gen.LogSites in
/-- every level written at a call site is one of the six constants below LOU_LOG_OFF
    (or the pass-through parameter `level` of `_lou_logWidecharBuf`, whose callers are in
    this list too): the library never emits at or above OFF -/
theorem call_levels_below_off :
    callSites.all (fun c =>
      c.level ∈ ["-", "LOU_LOG_ALL", "LOU_LOG_DEBUG", "LOU_LOG_INFO", "LOU_LOG_WARN", "LOU_LOG_ERROR", "LOU_LOG_FATAL"] ||
      (c.level == "level" && c.func == "_lou_logWidecharBuf")) = true := by decide +kernel

def demo : List Op :=
  [.emit LOG_DEBUG "d", .emit LOG_ERROR "e %s", .register false, .logFile (some "f"), .emit LOG_WARN "w",
   .logEnd, .emit LOG_INFO "i", .register true, .emit LOG_FATAL "x"]

example : NoSetLevel demo := fun op hop l h => by subst h; simp [demo] at hop

example : delivered (fun n => n != "") { State.init with userCb := true, threshold := LOG_ALL } demo =
    [⟨.callback, LOG_DEBUG, "d"⟩, ⟨.callback, LOG_ERROR, "e %s"⟩, ⟨.file "f", LOG_WARN, "w"⟩,
     ⟨.file "f", LOG_INFO, "i"⟩, ⟨.callback, LOG_FATAL, "x"⟩] := by decide +kernel

example : delivered (fun n => n != "") { State.init with userCb := true, threshold := LOG_WARN } demo =
    [⟨.callback, LOG_ERROR, "e %s"⟩, ⟨.file "f", LOG_WARN, "w"⟩, ⟨.callback, LOG_FATAL, "x"⟩] := by decide +kernel

example : ScriptRaised [.setLevel LOG_DEBUG, .emit LOG_INFO "a", .setLevel LOG_ALL] [.setLevel LOG_WARN, .emit LOG_INFO "a", .setLevel LOG_ALL] :=
  .cons (by show LOG_DEBUG ≤ LOG_WARN; decide) (.cons rfl (.cons (by show LOG_ALL ≤ LOG_ALL; decide) .nil))

/-- after lou_logEnd the default sink re-opens the FIRST name ever given, not the last -/
example : delivered (fun n => n != "") State.init
    [.logFile (some "a"), .logFile (some "b"), .emit LOG_ERROR "1", .logEnd, .emit LOG_ERROR "2"] =
    [⟨.file "b", LOG_ERROR, "1"⟩, ⟨.file "a", LOG_ERROR, "2"⟩] := by decide +kernel

end Lou.C19
