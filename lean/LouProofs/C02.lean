/-
  C02 — back-translation and conversions never access memory outside their buffers (driver part).
  The construction of C01 for `_lou_backTranslate`: for every engine satisfying the backward contract and all
  valid arguments, every access of the input copy and of the final stage (`backAccesses`) is inside the buffer
  it touches, and the bookkeeping of `*inlen` stays within `[0, srcmax]`.  The accesses of the per-pass
  composition are bounded one pass at a time (`backPassAccesses_ok`, for any `*inlen` within the invariant);
  no theorem ties them to the states of a run.  The engines' own accesses are sanitizer-observed only.

  The model is that of the repaired code.  As found, `*inlen` kept the caller's value for inputs with an
  embedded NUL, so the composition `memcpy` and the position loops ran over `*inlen + 1` map entries (F12).
-/
import LouModel.Access
import LouProofs.Contract
import LouProofs.C01

namespace Lou.C02
open Lou Lou.Drv Lou.Contract Lou.C01

theorem driver_back_safe (caps : Caps) (srcCap : Int) (t : TableInfo) (dotsFor : Nat → Nat) (e : Engine) (a : Args)
    (he : EngineOKBack e) (hv : ArgsValid a)
    (hsrc : ((cutAtNul a.inbuf).length : Int) + 4 ≤ srcCap)
    (hc : CapsOK caps a) :
    ∀ x ∈ backAccesses caps srcCap t dotsFor e a, x.ok = true := by
  have ⟨h0, hK, hfit⟩ := backRun_inv t dotsFor e a he
  have hcut := cutAtNul_length_le a.inbuf
  have hcp := hc.posMapping
  have hgk := imax_ge ((cutAtNul a.inbuf).length : Int) (a.outlen : Int)
  have hgN := imax_ge (a.inbuf.length : Int) (a.outlen : Int)
  unfold backAccesses
  simp only [List.forall_mem_append, and_assoc]
  -- the obligations follow the `++` order of `backAccesses`: four summands, then the `if s.failed` with its four
  refine ⟨allOk_range (by omega),
    allOk_if fun _ => allOk_range (by omega),
    allOk_if fun _ => allOk_range (by omega),
    allOk_if fun _ => allOk_range (by omega),
    ?_⟩
  split
  · exact allOk_nil
  refine allOk_append (allOk_append (allOk_append (allOk_range (by omega))
    (allOk_if fun _ => allOk_append (allOk_range (by omega)) (allOk_range (by omega))))
    (allOk_if fun _ => allOk_range (by omega))) ?_
  split
  next c hc' =>
    have := hv.cursor c hc'
    exact allOk_if fun h => allOk_one (by have := h.1; simp at this; omega) (by omega)
  · exact allOk_nil

/-- indices used by one pass's composition are guarded: `passPosMapping[prev[k]]` is only
    evaluated for `prev[k] ≤ realInlen` (index 0 otherwise), hence inside the map -/
theorem backPassAccesses_ok (caps : Caps) (a : Args) (hc : CapsOK caps a) (first : Bool) (inlenBefore : Int)
    (prev : List Int) (pin : PassIn) (po : PassOut) (hk : PassOKBack pin po)
    (hlen : (pin.chars.length : Int) ≤ imax (cutAtNul a.inbuf).length a.outlen)
    (_h0 : 0 ≤ inlenBefore) (hK : inlenBefore ≤ (cutAtNul a.inbuf).length) :
    ∀ x ∈ backPassAccesses caps first inlenBefore prev po, x.ok = true := by
  have hcp := hc.posMapping
  have h3 := hk.e3
  have hgk := imax_ge ((cutAtNul a.inbuf).length : Int) (a.outlen : Int)
  refine allOk_append (allOk_one (by omega) (by omega)) ?_
  cases first
  case true => exact allOk_nil
  exact allOk_append (allOk_range (by omega))
    (List.forall_mem_map.mpr fun p _ => ok_of_bounds (by dsimp only; omega) (by dsimp only; omega))

end Lou.C02
