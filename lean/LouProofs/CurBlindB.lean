/-
  CurBlind.lean's statement for the two backward main passes (Backward.lean, BackwardCtx.lean): they do not look at the
  cursor nor at `mode` but for `noUndefined` and `partialTrans` (the hypothesis is `C09.ModeAgree`, whose third bit,
  `noContractions`, only the forward passes read).  Hence the backward engines of Layer B are cursor-blind, which with
  `C10Back.back_optargs_cursor` gives C10's cursor clause for back-translation for every call the whole-call model
  covers.  The argument is the forward one: `updatePositions` alone reads the cursor, to compute the cursor.  Where
  Lemmas/Backward has a case lemma or an equation whose branch or hidden parts do not depend on the output, both runs
  are rewritten with it.
-/
import LouProofs.Lemmas.Backward
import LouProofs.CurBlind
import LouProofs.C10
import LouProofs.Lemmas.Engine

namespace Lou.CurBlindB
open Lou Lou.Gen Lou.Back Lou.C09

def er (o : Out) : Out := { o with cpos := 0, cstat := 0 }

@[simp] theorem er_chars (o : Out) : (er o).chars = o.chars := rfl
@[simp] theorem er_map (o : Out) : (er o).map = o.map := rfl

theorem er_eq_iff {o o' : Out} : er o = er o' ↔ o.chars = o'.chars ∧ o.map = o'.map := by
  simp only [er, Out.mk.injEq, and_true]

/-- `CurBlind.Obs` for the backward output -/
structure Obs (e : Out → Out) : Prop where
  body : ∀ {o o'}, e o = e o' → o.chars = o'.chars ∧ o.map = o'.map
  put : ∀ {o o'} (c : List Nat) (m : List (Option Int)), e o = e o' → e { o with chars := c, map := m } = e { o' with chars := c, map := m }
  up : ∀ {o o'}, e o = e o' → ∀ oc il pos input max,
    (updatePositions oc il pos input max o).map e = (updatePositions oc il pos input max o').map e

theorem obs_id : Obs id where
  body := fun {o o'} (h : o = o') => h ▸ ⟨rfl, rfl⟩
  put := fun {o o'} _ _ (h : o = o') => h ▸ rfl
  up := fun {o o'} (h : o = o') _ _ _ _ _ => h ▸ rfl

theorem obs_er : Obs er where
  body := er_eq_iff.mp
  put _ _ _ := rfl
  up h oc il pos input max := by
    obtain ⟨hc, hm⟩ := er_eq_iff.mp h
    obtain ⟨_, _, e⟩ := updatePositions_eq oc il pos input max _
    obtain ⟨_, _, e'⟩ := updatePositions_eq oc il pos input max _
    rw [e, e', hc, hm]
    exact ite_rel (Option.map er · = Option.map er ·) (fun _ => rfl) fun _ => ite_rel (Option.map er · = Option.map er ·) (fun _ => rfl) fun _ => rfl

variable {e : Out → Out} {m m' : Nat}

def erP (e : Out → Out) (r : Option (Nat × Out)) : Option (Nat × Out) := r.map fun x => (x.1, e x.2)

theorem erP_cases {a b : Option (Nat × Out)} (h : erP e a = erP e b) :
    (a = none ∧ b = none) ∨ ∃ p x y, a = some (p, x) ∧ b = some (p, y) ∧ e x = e y := by
  rcases map_eq_cases h with h | ⟨⟨p, x⟩, ⟨q, y⟩, h1, h2, hxy⟩
  · exact .inl h
  · simp only [Prod.mk.injEq] at hxy
    obtain ⟨rfl, hxy⟩ := hxy
    exact .inr ⟨p, x, y, h1, h2, hxy⟩

theorem erP_map {a b : Option Out} (p : Nat) (h : a.map e = b.map e) :
    erP e (a.map fun x => (p, x)) = erP e (b.map fun x => (p, x)) := by
  rcases map_eq_cases h with ⟨h1, h2⟩ | ⟨x, y, h1, h2, hxy⟩
  · rw [h1, h2]
  · rw [h1, h2]; exact congrArg (fun z => some (p, z)) hxy

def erS (e : Out → Out) (st : St) : St := { st with out := e st.out }

theorem erS_id (st : St) : erS id st = st := rfl

theorem erS_eq {st st' : St} (h : erS e st = erS e st') : st' = { st with out := st'.out } ∧ e st.out = e st'.out := by
  cases st; cases st'
  simp only [erS, St.mk.injEq] at h ⊢
  simp only [h, and_self]

/-- as `CurBlind.sim_mk` -/
theorem sim_mk {x y : Out} (h : e x = e y) (p : Nat) (c : Ctx) (po sw dw : Nat) (ap : List (Option Rule)) (b : Bool) :
    StepSim (erS e) ({ pos := p, out := x, ctx := c, prevOp := po, srcword := sw, destword := dw, applied := ap }, b)
      ({ pos := p, out := y, ctx := c, prevOp := po, srcword := sw, destword := dw, applied := ap }, b) :=
  ⟨congrArg (fun z => ({ pos := p, out := z, ctx := c, prevOp := po, srcword := sw, destword := dw, applied := ap } : St)) h, rfl⟩

theorem selectRule_mode (hm : ModeAgree m m') (t : Table) (ctx : Ctx) (input : List Nat) (pos before prevOp : Nat) :
    selectRule t m ctx input pos before prevOp = selectRule t m' ctx input pos before prevOp :=
  selectRule_congr fun _ _ _ => opcodeAccepts_congr hm.partialTrans rfl ..

variable (he : Obs e) (hm : ModeAgree m m')
include he

theorem beforeAttrs_er {o o' : Out} (h : e o = e o') (t : Table) : beforeAttrs t o' = beforeAttrs t o := by
  unfold beforeAttrs; rw [(he.body h).1]

theorem headCtx_er (t : Table) (st : St) {o' : Out} (h : e st.out = e o') :
    BackC.headCtx t { st with out := o' } = BackC.headCtx t st :=
  headCtx_congr rfl (he.body h).1.symm

theorem finishC_er (t : Table) (input : List Nat) (st : St) (o0 : Out) (p2 : Nat) {o2 o2' : Out} (op2 : Nat) (h : e o2 = e o2') :
    erS e (BackC.finishC t input st p2 o2 op2) = erS e (BackC.finishC t input { st with out := o0 } p2 o2' op2) := by
  rw [finishC_eq, finishC_eq]
  simp only [erS, h, (he.body h).1]

include hm

theorem undef_er {o o' : Out} (h : e o = e o') (d pos max : Nat) :
    (undefinedDots d m pos max o).map e = (undefinedDots d m' pos max o').map e := by
  obtain ⟨hc, hmp⟩ := he.body h
  obtain ⟨w, -, hw⟩ := undefinedDots_eq d (hasBit m mNoUndefined) max o.chars.length
  rw [hw m rfl pos o rfl, hw m' hm.noUndefined.symm pos o' (congrArg List.length hc).symm, ← hc, ← hmp]
  cases w with
  | none => rfl
  | some b => exact congrArg some (he.put _ _ h)

theorem putc_er {o o' : Out} (h : e o = e o') (t : Table) (d pos : Nat) (input : List Nat) (max : Nat) :
    (putCharacter t m d pos input max o).map e = (putCharacter t m' d pos input max o').map e := by
  rcases putCharacter_cases t d with ⟨oc, il, hp⟩ | hp <;> rw [hp, hp]
  · exact he.up h ..
  · exact undef_er he hm h ..

theorem each_er (t : Table) (input : List Nat) (max : Nat) :
    ∀ (k p : Nat) {o o' : Out}, e o = e o' → erP e (step.each t m input max k p o) = erP e (step.each t m' input max k p o')
  | 0, p, _, _, h => congrArg (fun z => some (p, z)) h
  | k + 1, p, o, o', h => by
    unfold step.each
    rcases map_eq_cases (putc_er he hm h t (inAt input p) p input max) with ⟨h1, h2⟩ | ⟨x, y, h1, h2, hxy⟩
    · rw [h1, h2]
    · rw [h1, h2]; exact each_er t input max k (p + 1) hxy

theorem emitPlain_er (t : Table) (input : List Nat) (max : Nat) (sel : Sel) (st : St) {o' : Out} (h : e st.out = e o') :
    erP e (BackC.emitPlain t m input max sel st) = erP e (BackC.emitPlain t m' input max sel { st with out := o' }) := by
  rcases emitPlain_cases t input sel with hc | hc | ⟨oc, il, hc⟩ | hc <;> rw [hc, hc]
  · exact erP_map _ (undef_er he hm h ..)
  · exact erP_map _ (he.up h ..)
  · exact each_er he hm t input max _ _ h

theorem step_er (t : Table) (input : List Nat) (max : Nat) {st st' : St} (h : erS e st = erS e st') :
    StepSim (erS e) (step t m input max st) (step t m' input max st') := by
  obtain ⟨hs, ho⟩ := erS_eq h
  obtain ⟨hc, hmp⟩ := he.body ho
  rw [hs, step_eq, step_eq]
  simp only [headCtx_er he t st ho, beforeAttrs_er he ho t, ← hc, ← hmp, ← selectRule_mode hm]
  generalize selectRule t m (BackC.headCtx t st) input st.pos (beforeAttrs t st.out) st.prevOp = sel
  refine ite_rel (StepSim (erS e)) (fun _ => sim_mk (he.put _ _ ho) ..) fun _ => ?_
  rcases erP_cases (emitPlain_er he hm t input max sel
    { st with ctx := BackC.ctxAfterSel sel (BackC.headCtx t st), applied := st.applied ++ [sel.rule] } ho) with ⟨h1, h2⟩ | ⟨p, x, y, h1, h2, hxy⟩
  · rw [h1, h2]; exact sim_mk ho ..
  · rw [h1, h2]; exact ⟨finishC_er he t input _ _ p _ hxy, rfl⟩

theorem loop_er (t : Table) (input : List Nat) (max : Nat) (fuel : Nat) {st st' : St} (h : erS e st = erS e st') :
    erS e (loop t m input max fuel st) = erS e (loop t m' input max fuel st') := by
  rw [loop_eq_iter, loop_eq_iter]
  refine (iter_stepSim (fun a b hab => ?_) fuel h).1
  have hp : a.pos = b.pos := (congrArg St.pos hab :)
  rcases Nat.lt_or_ge a.pos input.length with hl | hl
  · rw [stepG_of_lt hl, stepG_of_lt (hp ▸ hl)]
    exact step_er he hm t input max hab
  · rw [stepG_of_ge hl, stepG_of_ge (hp ▸ hl)]
    exact ⟨hab, rfl⟩

omit he hm

theorem translate_mode (hm : ModeAgree m m') (t : Table) (input : List Nat) (max : Nat) (cpos : Int) :
    translate t m input max cpos = translate t m' input max cpos := by
  have h := loop_er obs_id hm t input max (input.length + 1) (st := { out := { cpos := cpos, cstat := 0 } }) rfl
  rw [erS_id, erS_id] at h
  rw [translate_eq, translate_eq, h]

def erRes (r : PassResult) : PassResult := { r with cpos := 0, cstat := 0 }

theorem epilogue_er (t : Table) (input : List Nat) {st st' : St} (h : erS er st = erS er st') :
    erRes (epilogue t input st) = erRes (epilogue t input st') := by
  obtain ⟨hs, ho⟩ := erS_eq h
  obtain ⟨hc, hm⟩ := er_eq_iff.mp ho
  rw [hs, epilogue_congr (st := { st with out := st'.out }) (st' := st) rfl hc.symm hm.symm rfl rfl rfl]
  rfl

/-- C10 for the backward main pass B0: output, map, consumed length and applied rules do not depend on the cursor -/
theorem translate_cursor_blind (t : Table) (mode : Nat) (input : List Nat) (max : Nat) (c1 c2 : Int) :
    erRes (translate t mode input max c1) = erRes (translate t mode input max c2) := by
  rw [translate_eq, translate_eq]
  exact epilogue_er t input (loop_er obs_er (.refl mode) t input max _ rfl)

section ctx
open Lou.BackC

def erA (e : Out → Out) : ActC → ActC
  | .unsupported => .unsupported
  | .fail o vs => .fail (e o) vs
  | .ok o np vs => .ok (e o) np vs

theorem erA_cases {a b : ActC} (h : erA e a = erA e b) :
    (a = .unsupported ∧ b = .unsupported) ∨ (∃ x y vs, a = .fail x vs ∧ b = .fail y vs ∧ e x = e y) ∨
    ∃ x y np vs, a = .ok x np vs ∧ b = .ok y np vs ∧ e x = e y := by
  cases a <;> cases b <;> simp only [erA, reduceCtorEq, ActC.fail.injEq, ActC.ok.injEq] at h
  · exact .inl ⟨rfl, rfl⟩
  · obtain ⟨ho, rfl⟩ := h; exact .inr (.inl ⟨_, _, _, rfl, rfl, ho⟩)
  · obtain ⟨ho, rfl, rfl⟩ := h; exact .inr (.inr ⟨_, _, _, _, rfl, rfl, ho⟩)

def erSC (e : Out → Out) (sc : StC) : StC := { sc with st := erS e sc.st }

theorem erSC_id (sc : StC) : erSC id sc = sc := rfl

theorem erSC_eq {sc sc' : StC} (h : erSC e sc = erSC e sc') :
    sc' = { sc with st := { sc.st with out := sc'.st.out } } ∧ e sc.st.out = e sc'.st.out := by
  cases sc; cases sc'
  simp only [erSC, StC.mk.injEq] at h ⊢
  simp only [h.2, and_true]
  exact erS_eq h.1

/-- as `sim_mk`, one level up -/
theorem simC_of {x y : St × Bool} (h : StepSim (erS e) x y) (vs : List Nat) (un fl : Bool) :
    StepSim (erSC e) ({ st := x.1, vars := vs, unsupported := un, failed := fl }, x.2)
      ({ st := y.1, vars := vs, unsupported := un, failed := fl }, y.2) :=
  ⟨congrArg (fun z => ({ st := z, vars := vs, unsupported := un, failed := fl } : StC)) h.1, h.2⟩

theorem selectRuleC_mode (hm : ModeAgree m m') (t : Table) (ctx : Ctx) (input : List Nat) (pos before prevOp : Nat) (vars : List Nat) :
    selectRuleC t m ctx input pos before prevOp vars = selectRuleC t m' ctx input pos before prevOp vars :=
  selectRuleC_congr fun _ _ _ => opcodeAccepts_congr hm.partialTrans rfl ..

include he

theorem moveOut_er {o o' : Out} (dsm dsr : Nat) (h : e o = e o') : e (moveOut o dsm dsr) = e (moveOut o' dsm dsr) := by
  obtain ⟨hc, hmp⟩ := he.body h
  obtain ⟨c', -, hmv⟩ := moveOut_eq o.chars dsm dsr
  rw [hmv o rfl, hmv o' hc.symm, ← hmp]
  exact he.put _ _ h

include hm

/-- `CurBlindC.copyChars_er` for the backward pass; why it has this shape is said there -/
theorem copyChars_er (t : Table) (input : List Nat) (max : Nat) (vars : List Nat) {k k' : Out → ActC}
    (hk : ∀ {x y : Out}, e x = e y → erA e (k x) = erA e (k' y)) :
    ∀ (n : Nat) (frm to : Int) {o o' : Out}, e o = e o' →
      erA e (match copyChars t m input max n frm to o with
        | (o2, false) => ActC.fail o2 vars
        | (o2, true) => k o2) =
      erA e (match copyChars t m' input max n frm to o' with
        | (o2, false) => ActC.fail o2 vars
        | (o2, true) => k' o2)
  | 0, _, _, _, _, h => hk h
  | n + 1, frm, to, o, o', h => by
    unfold copyChars
    by_cases hlt : frm < to
    · rw [if_pos hlt, if_pos hlt]
      rcases map_eq_cases (putc_er he hm h t (Pass.elem input frm) frm.toNat input max) with ⟨h1, h2⟩ | ⟨x, y, h1, h2, hxy⟩
      · rw [h1, h2]; exact congrArg (ActC.fail · vars) h
      · rw [h1, h2]; exact copyChars_er t input max vars hk n _ _ hxy
    · rw [if_neg hlt, if_neg hlt]; exact hk h

theorem actLoopC_er (t : Table) (p input : List Nat) (mt : Pass.Match) (max dsm : Nat) :
    ∀ (fuel ic : Nat) {o o' : Out} (dsr : Nat) (np : Int) (vars : List Nat), e o = e o' →
      erA e (actLoopC t m p input mt max dsm fuel ic o dsr np vars) = erA e (actLoopC t m' p input mt max dsm fuel ic o' dsr np vars)
  | 0, _, _, _, _, _, _, _ => rfl
  | f + 1, ic, o, o', dsr, np, vars, h => by
    obtain ⟨hc, hmp⟩ := he.body h
    have ih := @actLoopC_er t p input mt max dsm f
    have hfail : erA e (.fail o vars) = erA e (.fail o' vars) := congrArg (ActC.fail · vars) h
    have br := @ite_rel _ _ (erA e · = erA e ·)
    unfold actLoopC
    rw [hc]
    -- the instructions in the order of the definition: end of the program, literal, omit, copy, variable
    refine br (fun _ => congrArg (ActC.ok · np vars) h) fun _ => ?_
    refine br (fun _ => ?_) fun _ => ?_
    · refine br (fun _ => hfail) fun _ => ?_
      rw [hmp]; exact ih _ _ _ _ (he.put _ _ h)
    refine br (fun _ => ih _ _ _ _ h) fun _ => ?_
    refine br (fun _ => ?_) fun _ => ?_
    · refine br (fun _ => hfail) fun _ => ?_
      refine copyChars_er he hm t input max vars (fun hxy => ?_) _ _ _
        (ite_rel (e · = e ·) (fun _ => moveOut_er he dsm dsr h) fun _ => h)
      rw [(he.body hxy).1, (he.body hxy).2]
      exact ih _ _ _ _ (he.put _ _ hxy)
    cases Pass.varAction p ic vars with
    | none => rfl
    | some vl => exact ih _ _ _ _ h

theorem actionC_er (t : Table) (p input : List Nat) (mt : Pass.Match) (ic max : Nat) {o o' : Out} (vars : List Nat)
    (h : e o = e o') : erA e (actionC t m p input mt ic max o vars) = erA e (actionC t m' p input mt ic max o' vars) := by
  unfold actionC
  rw [(he.body h).1]
  refine copyChars_er he hm t input max vars (fun hxy => ?_) _ _ _ h
  rw [(he.body hxy).1, (he.body hxy).2]
  exact actLoopC_er he hm t p input mt max _ _ _ _ _ _ (he.put _ _ hxy)

theorem replC_er (t : Table) (input : List Nat) (max : Nat) (s : SelC) (st : St) (vars : List Nat) {o' : Out}
    (h : e st.out = e o') :
    (replC t m input max s st vars).1.map (erV e) = (replC t m' input max s { st with out := o' } vars).1.map (erV e) ∧
    (replC t m input max s st vars).2 = (replC t m' input max s { st with out := o' } vars).2 := by
  unfold replC
  split
  · rename_i r mt ic _
    rcases erA_cases (actionC_er he hm t r.dots input mt ic max vars h) with ⟨e1, e2⟩ | ⟨x, y, vs, e1, e2, hxy⟩ | ⟨x, y, np, vs, e1, e2, hxy⟩
    · rw [e1, e2]; exact ⟨rfl, rfl⟩
    · rw [e1, e2]; exact ⟨rfl, rfl⟩
    · rw [e1, e2]; exact ⟨congrArg (fun z => some (np.toNat, z, vs)) hxy, rfl⟩
  · rcases erP_cases (emitPlain_er he hm t input max s.sel st h) with ⟨h1, h2⟩ | ⟨p, x, y, h1, h2, hxy⟩
    · rw [h1, h2]; exact ⟨rfl, rfl⟩
    · rw [h1, h2]; exact ⟨congrArg (fun z => some (p, z, vars)) hxy, rfl⟩

theorem afterC_er (t : Table) (input : List Nat) (max : Nat) (p' : Nat) {o o' : Out} (vars1 : List Nat) (h : e o = e o') :
    (afterC t m input max p' o vars1).map (erV e) = (afterC t m' input max p' o' vars1).map (erV e) := by
  unfold afterC
  split
  · rfl
  · rename_i r mt ic _
    rcases erA_cases (actionC_er he hm t r.dots input mt ic max vars1 h) with ⟨e1, e2⟩ | ⟨x, y, vs, e1, e2, hxy⟩ | ⟨x, y, np, vs, e1, e2, hxy⟩
    · rw [e1, e2]
    · rw [e1, e2]; exact congrArg (fun z => some (p', z, vs, CTO_Context)) hxy
    · rw [e1, e2]; exact congrArg (fun z => some (np.toNat, z, vs, CTO_Context)) hxy
  · exact congrArg (fun z => some (p', z, vars1, CTO_Always)) h

theorem stepC_er (t : Table) (input : List Nat) (max : Nat) {sc sc' : StC} (h : erSC e sc = erSC e sc') :
    StepSim (erSC e) (stepC t m input max sc) (stepC t m' input max sc') := by
  obtain ⟨hs, ho⟩ := erSC_eq h
  rw [hs]
  unfold stepC
  simp only [headCtx_er he t sc.st ho, beforeAttrs_er he ho t, ← selectRuleC_mode hm]
  generalize selectRuleC t m (headCtx t sc.st) input sc.st.pos (beforeAttrs t sc.st.out) sc.st.prevOp sc.vars = s
  refine ite_rel (StepSim (erSC e)) (fun _ => simC_of (sim_mk ho ..) ..) fun _ => ?_
  refine ite_rel (StepSim (erSC e)) (fun _ => ?_) fun _ => ?_
  · rw [(he.body ho).1, (he.body ho).2]; exact simC_of (sim_mk (he.put _ _ ho) ..) ..
  -- replacement, then `afterC` from what it leaves; each result is made a variable before its shape is looked at
  have r := replC_er he hm t input max s
    { sc.st with ctx := ctxAfterSel s.sel (headCtx t sc.st), applied := sc.st.applied ++ [s.sel.rule] } sc.vars ho
  generalize replC t m input max s _ sc.vars = ra at r ⊢
  generalize replC t m' input max s _ sc.vars = rb at r ⊢
  obtain ⟨a1, fl⟩ := ra
  obtain ⟨b1, _⟩ := rb
  obtain ⟨r1, rfl⟩ := r
  refine ite_rel (StepSim (erSC e)) (fun _ => simC_of (sim_mk ho ..) ..) fun _ =>
    ite_rel (StepSim (erSC e)) (fun _ => simC_of (sim_mk ho ..) ..) fun _ => ?_
  rcases map_eq_cases r1 with ⟨rfl, rfl⟩ | ⟨⟨p1, x, v1⟩, ⟨_, y, _⟩, rfl, rfl, hxy⟩
  · exact simC_of (sim_mk ho ..) ..
  simp only [erV, Prod.mk.injEq] at hxy
  obtain ⟨rfl, hxy, rfl⟩ := hxy
  dsimp only
  have a := afterC_er he hm t input max p1 v1 hxy
  generalize afterC t m input max p1 x v1 = aa at a ⊢
  generalize afterC t m' input max p1 y v1 = ab at a ⊢
  rcases map_eq_cases a with ⟨rfl, rfl⟩ | ⟨⟨q1, x', w1, op1⟩, ⟨_, y', _, _⟩, rfl, rfl, hxy'⟩
  · exact simC_of (sim_mk ho ..) ..
  simp only [erV, Prod.mk.injEq] at hxy'
  obtain ⟨rfl, hxy', rfl, rfl⟩ := hxy'
  exact simC_of (x := (_, false)) (y := (_, false)) ⟨finishC_er he t input _ _ q1 op1 hxy', rfl⟩ ..

theorem loopC_er (t : Table) (input : List Nat) (max : Nat) (fuel : Nat) {sc sc' : StC} (h : erSC e sc = erSC e sc') :
    StepSim (erSC e) (loopC t m input max fuel sc) (loopC t m' input max fuel sc') := by
  rw [loopC_eq_iter, loopC_eq_iter]
  refine iter_stepSim (fun a b hab => ?_) fuel h
  have hp : a.st.pos = b.st.pos := (congrArg (·.st.pos) hab :)
  rcases Nat.lt_or_ge a.st.pos input.length with hl | hl
  · rw [stepCG_of_lt hl, stepCG_of_lt (hp ▸ hl)]
    exact stepC_er he hm t input max hab
  · rw [stepCG_of_ge hl, stepCG_of_ge (hp ▸ hl)]
    exact ⟨hab, rfl⟩

omit he hm

theorem translateC_mode (hm : ModeAgree m m') (t : Table) (input : List Nat) (max : Nat) (cpos : Int) :
    translateC t m input max cpos = translateC t m' input max cpos := by
  obtain ⟨h1, h2⟩ := loopC_er obs_id hm t input max (4 * input.length + 4) (sc := { st := { out := { cpos := cpos, cstat := 0 } } }) rfl
  rw [erSC_id, erSC_id] at h1
  rw [translateC_eq, translateC_eq, Prod.ext h1 h2]

def erR : ResC → ResC
  | .done r => .done (erRes r)
  | x => x

theorem translateC_cursor_blind (t : Table) (mode : Nat) (input : List Nat) (max : Nat) (c1 c2 : Int) :
    erR (translateC t mode input max c1) = erR (translateC t mode input max c2) := by
  have h := loopC_er obs_er (.refl mode) t input max (4 * input.length + 4)
    (sc := { st := { out := { cpos := c1, cstat := 0 } } }) (sc' := { st := { out := { cpos := c2, cstat := 0 } } }) rfl
  rw [translateC_eq, translateC_eq]
  generalize loopC t mode input max _ { st := { out := { cpos := c1, cstat := 0 } } } = a at h ⊢
  generalize loopC t mode input max _ { st := { out := { cpos := c2, cstat := 0 } } } = b at h ⊢
  obtain ⟨sa, fin⟩ := a
  obtain ⟨sb, _⟩ := b
  obtain ⟨h1, rfl⟩ := h
  dsimp only
  rw [show sa.unsupported = sb.unsupported from (congrArg StC.unsupported h1 :),
      show sa.failed = sb.failed from (congrArg StC.failed h1 :)]
  exact ite_rel (erR · = erR ·) (fun _ => rfl) fun _ => ite_rel (erR · = erR ·) (fun _ => rfl) fun _ =>
    ite_rel (erR · = erR ·) (fun _ => rfl) fun _ => congrArg ResC.done (epilogue_er t input (congrArg StC.st h1 :))

end ctx

open Lou.Drv Lou.Engine

theorem modelEngineBack_blind (t : Table) : C10.CursorBlind (modelEngineBack t) := by
  refine C10.cursorBlind_of_passIn fun ini _ _ n ch m c1 s1 c2 s2 => ?_
  unfold modelEngineBack
  dsimp only
  split
  · have hb := translate_cursor_blind t ini.mode ch m c1 c2
    simp only [erRes, PassResult.mk.injEq] at hb
    simp only [C10.erOut, hb]
  · split <;> rfl

theorem modelEngineBackC_blind (t : Table) : C10.CursorBlind (modelEngineBackC t) := by
  refine C10.cursorBlind_of_passIn fun ini _ _ n ch m c1 s1 c2 s2 => ?_
  unfold modelEngineBackC
  dsimp only
  split
  · have hb := translateC_cursor_blind t ini.mode ch m c1 c2
    generalize BackC.translateC t ini.mode ch m c1 = r1 at hb
    generalize BackC.translateC t ini.mode ch m c2 = r2 at hb
    cases r1 <;> cases r2 <;> simp only [erR, reduceCtorEq, BackC.ResC.done.injEq] at hb <;> try rfl
    simp only [erRes, PassResult.mk.injEq] at hb
    simp only [C10.erOut, hb]
  · split <;> rfl

theorem engineForBack_blind (t : Table) : C10.CursorBlind (engineForBack t) :=
  engineForBack_elim t (modelEngineBackC_blind t) (modelEngineBack_blind t)

/-- C10 for back-translation, every call the whole-call model covers: the presence of typeform, spacing, outputPos,
    inputPos and cursorPos changes neither return value, lengths nor output text -/
theorem whole_call_back_optargs (tbl : Option TableInfo) (d : Nat → Nat) (t : Table) (a : Args) (x y : Bool)
    (tf sp : Option (List Nat)) (c : Option Int) :
    C10.core (back tbl d (Engine.engineForBack t) { a with wantOutputPos := x, wantInputPos := y, typeform := tf, spacing := sp }) =
      C10.core (back tbl d (Engine.engineForBack t) a) ∧
    C10.core (back tbl d (Engine.engineForBack t) { a with cursor := c }) = C10.core (back tbl d (Engine.engineForBack t) { a with cursor := none }) :=
  ⟨C10Back.back_optargs_arrays tbl d _ a x y tf sp, C10Back.back_optargs_cursor tbl d _ a (engineForBack_blind t) c⟩

end Lou.CurBlindB
