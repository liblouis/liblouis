import LouModel
-- lemma files: the driver, engine and compile models
import LouProofs.Lemmas.Driver
import LouProofs.Lemmas.PosMap
import LouProofs.Lemmas.Iter
import LouProofs.Lemmas.Walk
import LouProofs.Lemmas.Table
import LouProofs.Lemmas.Forward
import LouProofs.Lemmas.Backward
import LouProofs.Lemmas.Pass
import LouProofs.Lemmas.Chain
import LouProofs.Lemmas.Engine
import LouProofs.Lemmas.Compile
-- lemma files: lexer, hyphenation, metadata, cache, table image, strings
import LouProofs.Lemmas.Lexer
import LouProofs.Lemmas.LexTokens
import LouProofs.Lemmas.Hyph
import LouProofs.Lemmas.HyphWalk
import LouProofs.Lemmas.HyphCompile
import LouProofs.Lemmas.HyphWrap
import LouProofs.Lemmas.Meta
import LouProofs.Lemmas.MetaScore
import LouProofs.Lemmas.Cache
import LouProofs.Lemmas.CacheInv
import LouProofs.Lemmas.Image
import LouProofs.Lemmas.Resolve
import LouProofs.Lemmas.Strings
-- Layer A: the drivers, for any engine that keeps the contract
import LouProofs.Contract
import LouProofs.C01Alloc
import LouProofs.C01
import LouProofs.C02
import LouProofs.C03
import LouProofs.C04
import LouProofs.C06
import LouProofs.C07
import LouProofs.C09
import LouProofs.C10
-- Layer B: the engine models, the compile model, the table image
import LouProofs.FwdOK
import LouProofs.FwdCOK
import LouProofs.BackOK
import LouProofs.BackCOK
import LouProofs.FwdTerm
import LouProofs.FwdCRefine
import LouProofs.BackCRefine
import LouProofs.C06Pass
import LouProofs.C05
import LouProofs.C11
import LouProofs.C12
import LouProofs.C12Compile
import LouProofs.C12Defs
import LouProofs.C15
-- Layer A∘B: the modelled engines in the drivers
import LouProofs.ModelEngine
import LouProofs.CurBlind
import LouProofs.CurBlindC
import LouProofs.CurBlindB
import LouProofs.ModeBlindEngine
-- Layer C: state machines and text-side models; the generated constants
import LouProofs.C08
import LouProofs.C13
import LouProofs.C14
import LouProofs.C16
import LouProofs.C17
import LouProofs.C18
import LouProofs.C19
import LouProofs.C20
import LouProofs.GenFacts
